import SamlModel.GoSem
import SamlModel.Model.Checker
/-!
  ChainSem — target of go2lean for the *chain handlers* (`ssoHandleFunc`, `logoutHandleFunc`,
  `attributeQueryHandleFunc`).

  * A closure literal over the handler's local variables is a function of the handler frame that may update it
    and may panic: `Clo σ α`.
  * One `checkerInstance.WithXxx(…)` call is one `Step σ` (constructor named after the method; value names, which
    checker.go only logs, are dropped).
  * `CheckFailed()` is `runChain`: the steps are registered, in order, with the functions of `Model.Checker` - the
    model of checker.go the C20 theorems are about - over the *panic-absorbing* state `Option σ`: once a closure
    panics the state is `none`, every later closure is a no-op, and the run reports the panic.  (A Go panic aborts the
    handler, nothing after it is observable; the embedding keeps the checker model total without giving checker.go a
    second semantics.)
  * `runChain_eq_runDirect`: that run is the obvious direct recursion (`runDirect`), which the handler refinement
    proofs use.
-/
namespace Go

/-- a closure over a frame `σ` with result `α` -/
abbrev Clo (σ α : Type) := σ → Res (α × σ)

/-- body of a closure literal: `return v` is `.ret (v, s)` -/
def Ctl.toClo [Inhabited α] (c : Ctl σ (α × σ)) : Res (α × σ) :=
  match c with
  | .ret r => .ok r
  | .panic => .panic
  | .next s => .ok (default, s)
  | .brk s => .ok (default, s)
  | .cont s => .ok (default, s)

@[simp] theorem Ctl.toClo_ret [Inhabited α] (r : α × σ) : (Ctl.ret r : Ctl σ (α × σ)).toClo = .ok r := rfl
@[simp] theorem Ctl.toClo_panic [Inhabited α] : (Ctl.panic : Ctl σ (α × σ)).toClo = .panic := rfl
@[simp] theorem Ctl.toClo_next [Inhabited α] (s : σ) : (Ctl.next s : Ctl σ (α × σ)).toClo = .ok (default, s) := rfl

/-- closure value inside the checker model -/
def Clo.lift [Inhabited α] (f : Clo σ α) : Checker.M (Option σ) α := fun st =>
  match st with
  | none => (default, none)
  | some s =>
    match f s with
    | .panic => (default, none)
    | .ok (a, s') => (a, some s')

/-- a `func() error` inside the checker model, which asks only whether an error was produced -/
def Clo.liftErr (f : Clo σ Err) : Checker.M (Option σ) Bool := fun st =>
  match st with
  | none => (false, none)
  | some s =>
    match f s with
    | .panic => (false, none)
    | .ok (e, s') => (e.isSome, some s')

/-- one registration call on a `checker.Checker` -/
inductive Step (σ : Type) where
  | withValueNotEmptyCheck (value : Clo σ String) (errorFunc : Clo σ Unit)
  | withValuesNotEmptyCheck (values : Clo σ (List String)) (errorFunc : Clo σ Unit)
  | withValueLengthCheck (value : Clo σ String) (minlength maxlength : Int) (errorFunc : Clo σ Unit)
  | withValueEqualsCheck (value equal : Clo σ String) (errorFunc : Clo σ Unit)
  | withConditionalValueNotEmpty (cond : Clo σ Bool) (value : Clo σ String) (errorFunc : Clo σ Unit)
  | withConditionalLogicStep (cond : Clo σ Bool) (logic : Clo σ Err) (errorFunc : Clo σ Unit)
  | withLogicStep (logic : Clo σ Err) (errorFunc : Clo σ Unit)
  | withValueStep (logic : Clo σ Unit)

/-- the registration as checker.go performs it: the function of `Model.Checker` with the method's name -/
def Step.register (c : Checker.Checker (Option σ)) : Step σ → Checker.Checker (Option σ)
  | .withValueNotEmptyCheck v e => Checker.withValueNotEmptyCheck c (Clo.lift v) (Clo.lift e)
  | .withValuesNotEmptyCheck v e => Checker.withValuesNotEmptyCheck c (Clo.lift v) (Clo.lift e)
  | .withValueLengthCheck v mn mx e => Checker.withValueLengthCheck c (Clo.lift v) mn mx (Clo.lift e)
  | .withValueEqualsCheck v q e => Checker.withValueEqualsCheck c (Clo.lift v) (Clo.lift q) (Clo.lift e)
  | .withConditionalValueNotEmpty cnd v e => Checker.withConditionalValueNotEmpty c (Clo.lift cnd) (Clo.lift v) (Clo.lift e)
  | .withConditionalLogicStep cnd l e => Checker.withConditionalLogicStep c (Clo.lift cnd) (Clo.liftErr l) (Clo.lift e)
  | .withLogicStep l e => Checker.withLogicStep c (Clo.liftErr l) (Clo.lift e)
  | .withValueStep l => Checker.withValueStep c (Clo.lift l)

/-- `checkerInstance := checker.Checker{}` followed by the registrations in source order -/
def buildChain (steps : List (Step σ)) : Checker.Checker (Option σ) := steps.foldl Step.register {}

/-- `checkerInstance.CheckFailed()` on a handler frame -/
def runChain (steps : List (Step σ)) (s : σ) : Res (Bool × σ) :=
  match Checker.checkFailed (buildChain steps) (some s) with
  | (_, none) => .panic
  | (b, some s') => .ok (b, s')

/-! ### The direct reading -/

/-- run a closure, then continue -/
@[inline] def Clo.andThen (f : Clo σ α) (k : α → σ → Res β) : σ → Res β := fun s =>
  match f s with
  | .panic => .panic
  | .ok (a, s') => k a s'

/-- the failure branch of every step: run the callback, report failure -/
def failWith (errorFunc : Clo σ Unit) : Clo σ Bool := errorFunc.andThen fun _ s => .ok (true, s)

/-- one step: did it fail -/
def Step.run : Step σ → Clo σ Bool
  | .withValueNotEmptyCheck v e => v.andThen fun x s => if x == "" then failWith e s else .ok (false, s)
  | .withValuesNotEmptyCheck v e => v.andThen fun xs s => if Checker.anyEmpty xs then failWith e s else .ok (false, s)
  | .withValueLengthCheck v mn mx e =>
    let after (b : Bool) : Clo σ Bool := fun s => if b then failWith e s else .ok (false, s)
    let second : Clo σ Bool := fun s =>
      if mx > 0 then v.andThen (fun x s => after (decide (Lib.goLen x > mx)) s) s else after false s
    fun s => if mn > 0 then v.andThen (fun x s => if decide (Lib.goLen x < mn) then after true s else second s) s else second s
  | .withValueEqualsCheck v q e => v.andThen fun x => q.andThen fun y s =>
      if x != y then v.andThen (fun _ => q.andThen fun _ => failWith e) s else .ok (false, s)
  | .withConditionalValueNotEmpty cnd v e => cnd.andThen fun b s =>
      if b then v.andThen (fun x s => if x == "" then failWith e s else .ok (false, s)) s else .ok (false, s)
  | .withConditionalLogicStep cnd l e => cnd.andThen fun b s =>
      if b then l.andThen (fun err s => if err.isSome then failWith e s else .ok (false, s)) s else .ok (false, s)
  | .withLogicStep l e => l.andThen fun err s => if err.isSome then failWith e s else .ok (false, s)
  | .withValueStep l => l.andThen fun _ s => .ok (false, s)

/-- `for _, step := range c.steps { if step() { return true } }; return false` -/
def runDirect : List (Step σ) → Clo σ Bool
  | [], s => .ok (false, s)
  | st :: rest, s =>
    match st.run s with
    | .panic => .panic
    | .ok (true, s') => .ok (true, s')
    | .ok (false, s') => runDirect rest s'

@[simp] theorem runDirect_nil (s : σ) : runDirect ([] : List (Step σ)) s = .ok (false, s) := rfl
theorem runDirect_cons (st : Step σ) (rest : List (Step σ)) (s : σ) :
    runDirect (st :: rest) s =
      match st.run s with
      | .panic => .panic
      | .ok (true, s') => .ok (true, s')
      | .ok (false, s') => runDirect rest s' := rfl

/-! ### The two readings agree -/

variable {σ : Type}

@[simp] theorem lift_none' [Inhabited α] (f : Clo σ α) : Clo.lift f none = (default, none) := rfl
@[simp] theorem liftErr_none' (f : Clo σ Err) : Clo.liftErr f none = (false, none) := rfl

/-- the failure branch in the checker model -/
def failM (e : Clo σ Unit) (st : Option σ) : Bool × Option σ := (true, (Clo.lift e st).2)

theorem failM_none (e : Clo σ Unit) : failM e none = (true, none) := rfl

theorem anyEmpty_default : Checker.anyEmpty (default : List String) = false := rfl

theorem ite_snd_none {α : Type} (c : Prop) [Decidable c] (a b : Bool × Option α) (ha : a.2 = none) (hb : b.2 = none) :
    (if c then a else b).2 = none := by split <;> assumption

/-- `let (a, s) := m s; k a s`, as Model.Checker writes sequencing -/
def bindM (m : Checker.M τ α) (k : α → Checker.M τ β) : Checker.M τ β := fun s => k (m s).1 (m s).2

/-- what an outcome of the checker model over `Option σ` is to the handler: a lost frame is a panic
    (the last line of `runChain`) -/
def observe : α × Option σ → Res (α × σ)
  | (_, none) => .panic
  | (a, some s) => .ok (a, s)

theorem observe_lost (p : α × Option σ) (h : p.2 = none) : observe p = .panic := by
  obtain ⟨a, o⟩ := p; subst h; rfl

/-- `m`, a computation of the checker model over the panic-absorbing state, does what the closure `r` does:
    a lost frame stays lost, and on a frame the outcome of `m` is the result of `r`.  `Clo.lift` relates every
    closure to itself, and the relation is kept by everything Model.Checker builds its steps from. -/
structure Sim (m : Checker.M (Option σ) α) (r : Clo σ α) : Prop where
  lost : (m none).2 = none
  frame : ∀ s, observe (m (some s)) = r s

theorem Sim.lift [Inhabited α] (f : Clo σ α) : Sim (Clo.lift f) f :=
  ⟨rfl, fun s => by rcases h : f s with _ | ⟨a, s'⟩ <;> simp only [Clo.lift, h] <;> rfl⟩

theorem Sim.pure (a : α) : Sim (fun st : Option σ => (a, st)) (fun s => .ok (a, s)) := ⟨rfl, fun _ => rfl⟩

/-- after a panic the model goes on computing, on a default value and a lost frame: that is harmless because
    what follows keeps the frame lost -/
theorem Sim.bind {m : Checker.M (Option σ) α} {r : Clo σ α} {k : α → Checker.M (Option σ) β} {j : α → Clo σ β}
    (hm : Sim m r) (hk : ∀ a, Sim (k a) (j a)) : Sim (bindM m k) (r.andThen j) := by
  constructor
  · show (k (m none).1 (m none).2).2 = none
    rw [hm.lost]; exact (hk _).lost
  · intro s
    show observe (k (m (some s)).1 (m (some s)).2) = (r.andThen j) s
    unfold Clo.andThen
    rw [← hm.frame s]
    rcases m (some s) with ⟨a, _ | s'⟩
    · exact observe_lost _ (hk a).lost
    · exact (hk a).frame s'

theorem Sim.ite (c : Prop) [Decidable c] {m m' : Checker.M (Option σ) α} {r r' : Clo σ α} (h : Sim m r) (h' : Sim m' r') :
    Sim (fun st => if c then m st else m' st) (fun s => if c then r s else r' s) := by
  split <;> assumption

theorem liftErr_eq (l : Clo σ Err) : Clo.liftErr l = fun st => ((Clo.lift l st).1.isSome, (Clo.lift l st).2) := by
  funext st
  rcases st with _ | s
  · rfl
  · rcases h : l s with _ | ⟨err, s'⟩ <;> simp only [Clo.liftErr, Clo.lift, h] <;> rfl

theorem Sim.bindErr (l : Clo σ Err) {k : Bool → Checker.M (Option σ) β} {j : Bool → Clo σ β} (hk : ∀ b, Sim (k b) (j b)) :
    Sim (bindM (Clo.liftErr l) k) (l.andThen fun err => j err.isSome) := by
  rw [liftErr_eq]; exact (Sim.lift l).bind fun err => hk err.isSome

theorem Sim.failM (e : Clo σ Unit) : Sim (Go.failM e) (failWith e) := (Sim.lift e).bind fun _ => Sim.pure true

/-- the function a step adds to the checker -/
def Step.toM (st : Step σ) : Checker.M (Option σ) Bool :=
  match (Step.register ({} : Checker.Checker (Option σ)) st).steps with
  | [f] => f
  | _ => fun s => (false, s)

theorem register_steps (c : Checker.Checker (Option σ)) (st : Step σ) :
    (Step.register c st).steps = c.steps ++ [st.toM] := by
  cases st <;> rfl

theorem buildChain_steps (steps : List (Step σ)) : (buildChain steps).steps = steps.map Step.toM := by
  have h : ∀ c : Checker.Checker (Option σ), (steps.foldl Step.register c).steps = c.steps ++ steps.map Step.toM := by
    induction steps with
    | nil => intro c; simp
    | cons st rest ih => intro c; simp [ih, register_steps]
  exact h {}

theorem Clo.ok_andThen (a : α) (k : α → σ → Res β) : Clo.andThen (fun s => .ok (a, s)) k = k a := rfl

theorem Clo.andThen_assoc (f : Clo σ α) (g : α → Clo σ β) (k : β → σ → Res γ) :
    Clo.andThen (Clo.andThen f g) k = Clo.andThen f fun a => Clo.andThen (g a) k := by
  funext s; simp only [Clo.andThen]; cases f s <;> rfl

theorem Clo.ite_andThen (c : Prop) [Decidable c] (f g : Clo σ α) (k : α → σ → Res β) :
    Clo.andThen (fun s => if c then f s else g s) k = fun s => if c then Clo.andThen f k s else Clo.andThen g k s := by
  by_cases h : c <;> simp only [h, if_true, if_false]

theorem Step.sim (st : Step σ) : Sim st.toM st.run := by
  cases st with
  | withValueNotEmptyCheck v e => exact (Sim.lift v).bind fun x => .ite (x == "") (.failM e) (.pure false)
  | withValuesNotEmptyCheck v e => exact (Sim.lift v).bind fun xs => .ite (Checker.anyEmpty xs) (.failM e) (.pure false)
  | withValueEqualsCheck v q e =>
    exact (Sim.lift v).bind fun x => (Sim.lift q).bind fun y =>
      .ite (x != y) ((Sim.lift v).bind fun _ => (Sim.lift q).bind fun _ => .failM e) (.pure false)
  | withConditionalValueNotEmpty c v e =>
    exact (Sim.lift c).bind fun b => .ite b ((Sim.lift v).bind fun x => .ite (x == "") (.failM e) (.pure false)) (.pure false)
  | withConditionalLogicStep c l e =>
    exact (Sim.lift c).bind fun b => .ite b (Sim.bindErr l fun failed => .ite failed (.failM e) (.pure false)) (.pure false)
  | withLogicStep l e => exact Sim.bindErr l fun failed => .ite failed (.failM e) (.pure false)
  | withValueStep l => exact (Sim.lift l).bind fun _ => .pure false
  | withValueLengthCheck v mn mx e =>
    -- the model computes the conjuncts of Go's short-circuit `||` as two flags, the direct reading branches
    have h : Sim (Step.withValueLengthCheck v mn mx e).toM _ :=
      (Sim.ite (mn > 0) ((Sim.lift v).bind fun x => .pure (decide (Lib.goLen x < mn))) (.pure false)).bind fun b1 =>
      (Sim.ite b1 (.pure true) (.ite (mx > 0) ((Sim.lift v).bind fun x => .pure (decide (Lib.goLen x > mx))) (.pure false))).bind
        fun b => .ite b (.failM e) (.pure false)
    refine ⟨h.lost, fun s => (h.frame s).trans ?_⟩
    congr 1
    simp only [Step.run, Clo.ite_andThen, Clo.andThen_assoc, Clo.ok_andThen, Bool.false_eq_true, if_true, if_false]

theorem runSteps_cons (f : Checker.M τ Bool) (fs : List (Checker.M τ Bool)) :
    Checker.runSteps (f :: fs) = bindM f fun failed s => if failed then (true, s) else Checker.runSteps fs s := by
  funext s
  simp only [Checker.runSteps, bindM]
  rcases f s with ⟨_ | _, s'⟩ <;> rfl

theorem runDirect_cons_eq (st : Step σ) (rest : List (Step σ)) :
    runDirect (st :: rest) = st.run.andThen fun failed s => if failed then .ok (true, s) else runDirect rest s := by
  funext s
  simp only [runDirect_cons, Clo.andThen]
  rcases st.run s with ⟨⟨_ | _, s'⟩⟩ | _ <;> rfl

theorem runSteps_sim (steps : List (Step σ)) : Sim (Checker.runSteps (steps.map Step.toM)) (runDirect steps) := by
  induction steps with
  | nil => exact .pure false
  | cons st rest ih =>
    rw [List.map_cons, runSteps_cons, runDirect_cons_eq]
    exact st.sim.bind fun failed => .ite failed (.pure true) ih

/-- **`CheckFailed()` through `Model.Checker` is the direct run.** -/
theorem runChain_eq_runDirect (steps : List (Step σ)) (s : σ) : runChain steps s = runDirect steps s := by
  rw [← (runSteps_sim steps).frame s, ← buildChain_steps]
  unfold runChain Checker.checkFailed
  rcases Checker.runSteps (buildChain steps).steps (some s) with ⟨b, _ | s'⟩ <;> rfl

end Go
