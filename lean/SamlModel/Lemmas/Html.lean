import SamlModel.Lib.Html
import SamlModel.Lemmas.Sweep
/-! Theorems about the html/template escaper models. -/
namespace Lib.Html

theorem attrEscape_cons (x : UInt8) (xs : Bytes) : attrEscape (x :: xs) = attrEscapeByte x ++ attrEscape xs := by
  simp [attrEscape]

theorem attrRun_append (st : AttrState) (a c : Bytes) : attrRun st (a ++ c) = attrRun (attrRun st a) c := by
  simp [attrRun, List.foldl_append]

/-- the escape table as a case principle: seven bytes have a replacement, every other byte is copied -/
theorem attrEscapeByte_elim {P : UInt8 → Bytes → Prop}
    (nul : P 0 fffd) (quot : P 0x22 [0x26, 0x23, 0x33, 0x34, 0x3B]) (amp : P 0x26 [0x26, 0x61, 0x6D, 0x70, 0x3B])
    (apos : P 0x27 [0x26, 0x23, 0x33, 0x39, 0x3B]) (plus : P 0x2B [0x26, 0x23, 0x34, 0x33, 0x3B])
    (lt : P 0x3C [0x26, 0x6C, 0x74, 0x3B]) (gt : P 0x3E [0x26, 0x67, 0x74, 0x3B])
    (other : ∀ x, x ≠ 0 → x ≠ 0x22 → x ≠ 0x26 → x ≠ 0x27 → x ≠ 0x2B → x ≠ 0x3C → x ≠ 0x3E → P x [x]) (x : UInt8) :
    P x (attrEscapeByte x) := by
  unfold attrEscapeByte
  by_cases h0 : x = 0; · rw [if_pos h0, h0]; exact nul
  rw [if_neg h0]
  by_cases h1 : x = 0x22; · rw [if_pos h1, h1]; exact quot
  rw [if_neg h1]
  by_cases h2 : x = 0x26; · rw [if_pos h2, h2]; exact amp
  rw [if_neg h2]
  by_cases h3 : x = 0x27; · rw [if_pos h3, h3]; exact apos
  rw [if_neg h3]
  by_cases h4 : x = 0x2B; · rw [if_pos h4, h4]; exact plus
  rw [if_neg h4]
  by_cases h5 : x = 0x3C; · rw [if_pos h5, h5]; exact lt
  rw [if_neg h5]
  by_cases h6 : x = 0x3E; · rw [if_pos h6, h6]; exact gt
  rw [if_neg h6]
  exact other x h0 h1 h2 h3 h4 h5 h6

/-- **no delimiter**: the attribute escaper's output contains no `"`, `<`, `>`, `'` and no NUL — whatever the input bytes -/
theorem attrEscapeByte_safe (x : UInt8) : ∀ y ∈ attrEscapeByte x, y ≠ 0x22 ∧ y ≠ 0x3C ∧ y ≠ 0x3E ∧ y ≠ 0x27 ∧ y ≠ 0 := by
  refine attrEscapeByte_elim (P := fun x o => ∀ y ∈ o, y ≠ 0x22 ∧ y ≠ 0x3C ∧ y ≠ 0x3E ∧ y ≠ 0x27 ∧ y ≠ 0)
    (by decide) (by decide) (by decide) (by decide) (by decide) (by decide) (by decide) ?_ x
  intro x h0 h22 _ h27 _ h3C h3E y hy
  rw [List.mem_singleton.mp hy]
  exact ⟨h22, h3C, h3E, h27, h0⟩

theorem attrEscape_safe (v : Bytes) : ∀ y ∈ attrEscape v, y ≠ 0x22 ∧ y ≠ 0x3C ∧ y ≠ 0x3E ∧ y ≠ 0x27 ∧ y ≠ 0 := by
  intro y hy
  obtain ⟨x, _, hx⟩ := List.mem_flatMap.mp hy
  exact attrEscapeByte_safe x y hx

/-- the decoder only ever appends to what it has written -/
theorem attrRun_out (out : Bytes) (r : Option Bytes) (v : Bytes) :
    attrRun { out := out, ref := r } v = { out := out ++ (attrRun { ref := r } v).out, ref := (attrRun { ref := r } v).ref } := by
  have := List.foldl_hom (fun s : AttrState => { out := out ++ s.out, ref := s.ref }) (g₁ := attrStep) (g₂ := attrStep) (l := v)
    (init := { ref := r }) fun ⟨o, r⟩ x => by
      cases r <;> simp only [attrStep, List.append_assoc] <;> repeat' split
      all_goals rfl
  rwa [List.append_nil] at this

theorem attrRun_escapeByte (x : UInt8) : attrRun {} (attrEscapeByte x) = { out := if x = 0 then fffd else [x] } := by
  refine attrEscapeByte_elim (P := fun x o => attrRun {} o = { out := if x = 0 then fffd else [x] })
    (by decide) (by decide) (by decide) (by decide) (by decide) (by decide) (by decide) ?_ x
  intro x h0 _ h26 _ _ _ _
  simp [attrRun, attrStep, h0, h26]

theorem attrRun_escape (out : Bytes) (v : Bytes) : attrRun { out := out } (attrEscape v) = { out := out ++ nulToFFFD v } := by
  induction v generalizing out with
  | nil => simp [attrEscape, attrRun, nulToFFFD]
  | cons x xs ih =>
    rw [attrEscape_cons, attrRun_append, attrRun_out out none (attrEscapeByte x), attrRun_escapeByte, ih]
    simp [nulToFFFD, List.append_assoc]

/-- **attribute round trip**: decoding the escaped value gives back exactly the value (NUL replaced by U+FFFD),
    for every byte string -/
theorem attr_roundtrip (v : Bytes) : decodeAttrValue (attrEscape v) = nulToFFFD v := by
  unfold decodeAttrValue
  have := attrRun_escape [] v
  simp only [List.nil_append] at this
  rw [show ({} : AttrState) = { out := [] } from rfl, this]

/-- bytes the URL normaliser can emit -/
def urlOut (y : UInt8) : Bool := urlKeep y || y = 0x25 || isHexByte y

theorem hexLower_ok (n : Nat) (h : n < 16) : isHexByte (hexLower n) = true := by
  have : ∀ k : Fin 16, isHexByte (hexLower k.val) = true := by decide
  exact this ⟨n, h⟩

theorem urlNormHead_out (x : UInt8) (rest : Bytes) : ∀ y ∈ urlNormHead x rest, urlOut y = true := by
  intro y hy
  unfold urlNormHead at hy
  -- a kept byte is written as it is; '%' stays (before two hex digits) or becomes %25; any other byte becomes '%' and two hex digits
  split at hy
  next hk => obtain rfl := List.mem_singleton.mp hy; simp [urlOut, hk]
  next =>
    split at hy
    next hp =>
      have h25 : ∀ y ∈ ([0x25, 0x32, 0x35] : Bytes), urlOut y = true := by decide
      split at hy
      · split at hy
        · obtain rfl := List.mem_singleton.mp hy; subst hp; decide
        · exact h25 y hy
      · exact h25 y hy
    next =>
      simp only [List.mem_cons, List.not_mem_nil, or_false] at hy
      rcases hy with rfl | rfl | rfl
      · decide
      · have := hexLower_ok (x.toNat / 16) (by have := x.toNat_lt; omega); simp [urlOut, this]
      · have := hexLower_ok (x.toNat % 16) (by omega); simp [urlOut, this]

theorem urlNormalize_out (u : Bytes) : ∀ y ∈ urlNormalize u, urlOut y = true := by
  induction u with
  | nil => intro y hy; simp [urlNormalize] at hy
  | cons x rest ih =>
    intro y hy
    simp only [urlNormalize, List.mem_append] at hy
    rcases hy with hy | hy
    · exact urlNormHead_out x rest y hy
    · exact ih y hy

/-- none of the bytes the normaliser emits is a quote, an angle bracket, a space, a control character or NUL -/
theorem urlOut_safe (y : UInt8) :
    urlOut y = true → y ≠ 0x22 ∧ y ≠ 0x3C ∧ y ≠ 0x3E ∧ y ≠ 0x27 ∧ y ≠ 0x20 ∧ y ≠ 0 ∧ y ≠ 0x0D ∧ y ≠ 0x0A := by
  revert y; exact UInt8.forall_of_fin (by decide +kernel)

/-- the URL filter returns its argument or the fail-safe marker; the argument only when it has no protocol or its
    protocol is http, https or mailto (compared case-insensitively) -/
theorem urlFilter_cases (u : Bytes) :
    urlFilter u = failsafe ∨ (urlFilter u = u ∧ (schemeOf u = none ∨ ∃ p, schemeOf u = some p ∧
      (foldProto p = [0x68, 0x74, 0x74, 0x70] ∨ foldProto p = [0x68, 0x74, 0x74, 0x70, 0x73] ∨ foldProto p = [0x6D, 0x61, 0x69, 0x6C, 0x74, 0x6F]))) := by
  unfold urlFilter
  cases hs : schemeOf u with
  | none => exact Or.inr ⟨rfl, Or.inl rfl⟩
  | some p =>
    simp only
    split
    next h => exact Or.inr ⟨rfl, Or.inr ⟨p, rfl, h⟩⟩
    next => exact Or.inl rfl

/-- a `javascript:` or `data:` URL (any letter case) never survives the filter -/
theorem urlFilter_blocks (u p : Bytes) (hs : schemeOf u = some p)
    (hbad : foldProto p ≠ [0x68, 0x74, 0x74, 0x70] ∧ foldProto p ≠ [0x68, 0x74, 0x74, 0x70, 0x73] ∧ foldProto p ≠ [0x6D, 0x61, 0x69, 0x6C, 0x74, 0x6F]) :
    urlFilter u = failsafe := by
  unfold urlFilter
  simp only [hs]
  split
  next h =>
    rcases h with h | h | h
    · exact absurd h hbad.1
    · exact absurd h hbad.2.1
    · exact absurd h hbad.2.2
  next => rfl

example : urlFilter (str "javascript:alert(1)") = failsafe := by decide +kernel
example : urlFilter (str "JaVaScRiPt:alert(1)") = failsafe := by decide +kernel
example : urlFilter (str "data:text/html,x") = failsafe := by decide +kernel
example : urlFilter (str "https://sp.example.com/acs?x=1") = str "https://sp.example.com/acs?x=1" := by decide +kernel

/-! ### what a browser makes of the emitted action -/

theorem schemeChar_keep (x : UInt8) (h : schemeChar x = true) : urlKeep x = true :=
  UInt8.forall_of_fin (p := fun x => schemeChar x = true → urlKeep x = true) (by decide +kernel) x h

theorem byte_facts (x : UInt8) : (schemeChar x = true → x ≠ 0x25 ∧ x ≠ 0x2F ∧ x ≠ 0x3A ∧ x ≠ 0xC5) ∧
    (isAlphaByte x = true → schemeChar x = true) := by
  revert x; exact UInt8.forall_of_fin (by decide +kernel)

theorem urlNormHead_pct (x : UInt8) (rest : Bytes) (hk : ¬ urlKeep x = true) : ∃ tl, urlNormHead x rest = 0x25 :: tl := by
  unfold urlNormHead
  rw [if_neg hk]
  by_cases hp : x = 0x25
  · subst hp
    rw [if_pos rfl]
    rcases rest with _ | ⟨a, _ | ⟨c, r⟩⟩
    · exact ⟨_, rfl⟩
    · exact ⟨_, rfl⟩
    · by_cases hh : (isHexByte a && isHexByte c) = true
      · exact ⟨[], by simp [hh]⟩
      · exact ⟨_, by simp [hh]; rfl⟩
  · rw [if_neg hp]; exact ⟨_, rfl⟩

/-- percent-encoding never creates a scheme: a scheme read from the normalised URL was already there -/
theorem schemeTail_normalize {u p : Bytes} (h : schemeTail (urlNormalize u) = some p) : schemeTail u = some p := by
  induction u generalizing p with
  | nil => simp [urlNormalize, schemeTail] at h
  | cons x rest ih =>
    by_cases hk : urlKeep x = true
    · have hn : urlNormalize (x :: rest) = x :: urlNormalize rest := by simp [urlNormalize, urlNormHead, hk]
      rw [hn] at h
      unfold schemeTail at h ⊢
      by_cases hc : x = 0x3A
      · simpa [hc] using h
      · simp only [hc, if_false] at h ⊢
        by_cases hs : schemeChar x = true
        · simp only [hs, if_true] at h ⊢
          cases hq : schemeTail (urlNormalize rest) with
          | none => simp [hq] at h
          | some q => rw [hq] at h; rw [ih hq]; exact h
        · simp [hs] at h
    · -- an encoded byte starts with '%', which is neither ':' nor a scheme character
      have hhead : ∃ tl, urlNormalize (x :: rest) = 0x25 :: tl := by
        obtain ⟨tl, htl⟩ := urlNormHead_pct x rest hk
        exact ⟨tl ++ urlNormalize rest, by simp [urlNormalize, htl]⟩
      obtain ⟨tl, htl⟩ := hhead
      rw [htl] at h
      have : schemeChar 0x25 = false := by decide
      simp [schemeTail, this] at h

/-- a scheme read left to right is the prefix before the first ':' and contains no '/' -/
theorem schemeOf_of_schemeTail {u p : Bytes} (h : schemeTail u = some p) : schemeOf u = some p ∧ ∀ y ∈ p, schemeChar y = true := by
  have key : ∀ (u p : Bytes), schemeTail u = some p →
      u.findIdx? (· = 0x3A) = some p.length ∧ u.take p.length = p ∧ (∀ y ∈ p, schemeChar y = true) := by
    intro u
    induction u with
    | nil => intro p h; simp [schemeTail] at h
    | cons x rest ih =>
      intro p h
      unfold schemeTail at h
      by_cases hc : x = 0x3A
      · simp [hc] at h; subst h; simp [hc, List.findIdx?_cons]
      · simp only [hc, if_false] at h
        by_cases hs : schemeChar x = true
        · simp only [hs, if_true] at h
          cases hq : schemeTail rest with
          | none => simp [hq] at h
          | some q =>
            rw [hq] at h; cases h
            obtain ⟨h1, h2, h3⟩ := ih q hq
            refine ⟨?_, ?_, ?_⟩
            · simp [List.findIdx?_cons, hc, h1]
            · simp [h2]
            · intro y hy
              rcases List.mem_cons.mp hy with rfl | hy
              · exact hs
              · exact h3 y hy
        · simp [hs] at h
  obtain ⟨h1, h2, h3⟩ := key u p h
  refine ⟨?_, h3⟩
  unfold schemeOf
  rw [h1]
  simp only [h2]
  have : (0x2F : UInt8) ∉ p := fun hm => absurd rfl ((byte_facts 0x2F).1 (h3 _ hm)).2.1
  simp [this]

theorem foldProto_ascii (p : Bytes) (h : ∀ y ∈ p, schemeChar y = true) : foldProto p = p.map toLowerByte := by
  induction p with
  | nil => simp [foldProto]
  | cons x t ih =>
    have hx : x ≠ 0xC5 := ((byte_facts x).1 (h x (by simp))).2.2.2
    -- `0xC5` opens the one two-byte sequence `foldProto` folds; every other byte is lower-cased
    rw [foldProto, ih (fun y hy => h y (by simp [hy])), List.map_cons]
    exact fun _ e _ => hx e

theorem schemeTail_of_browserScheme {w p : Bytes} (h : browserScheme w = some p) : schemeTail w = some p := by
  cases w with
  | nil => cases h
  | cons x t =>
    unfold browserScheme at h
    by_cases ha : isAlphaByte x = true
    · have hs := (byte_facts x).2 ha
      simpa [ha, schemeTail, hs, ((byte_facts x).1 hs).2.2.1] using h
    · simp [ha] at h

/-- **the action a browser sees has a safe protocol**: whatever the consumer URL, if a WHATWG URL parser finds a scheme in
    the emitted action then it is http, https or mailto (ASCII case-insensitively) -/
theorem action_browser_scheme (u p : Bytes) (h : browserScheme (urlNormalize (urlFilter u)) = some p) :
    p.map toLowerByte = [0x68, 0x74, 0x74, 0x70] ∨ p.map toLowerByte = [0x68, 0x74, 0x74, 0x70, 0x73] ∨
      p.map toLowerByte = [0x6D, 0x61, 0x69, 0x6C, 0x74, 0x6F] := by
  -- the scheme of the output is a scheme of the filter's result
  have hst := schemeTail_normalize (schemeTail_of_browserScheme h)
  rcases urlFilter_cases u with hf | ⟨hf, hs⟩
  · rw [hf] at hst
    have : schemeTail failsafe = none := by decide +kernel
    rw [this] at hst; cases hst
  · rw [hf] at hst
    obtain ⟨hso, hall⟩ := schemeOf_of_schemeTail hst
    rcases hs with hnone | ⟨q, hq, hsafe⟩
    · rw [hnone] at hso; cases hso
    · rw [hq] at hso
      cases hso
      rw [foldProto_ascii p hall] at hsafe
      exact hsafe

theorem nulToFFFD_of_nz (w : Bytes) (hnz : ∀ y ∈ w, y ≠ 0) : nulToFFFD w = w := by
  induction w with
  | nil => rfl
  | cons x xs ih =>
    have hx : x ≠ 0 := hnz x (by simp)
    simp only [nulToFFFD, List.flatMap_cons, hx, if_false] at ih ⊢
    rw [ih (fun y hy => hnz y (by simp [hy]))]
    rfl

theorem nulToFFFD_urlNormalize (u : Bytes) : nulToFFFD (urlNormalize u) = urlNormalize u :=
  nulToFFFD_of_nz _ (fun y hy => (urlOut_safe y (urlNormalize_out _ y hy)).2.2.2.2.2.1)

/-- an HTML parser recovers exactly the normalised, filtered URL from the emitted attribute -/
theorem urlAttr_decodes (u : Bytes) : decodeAttrValue (urlAttr u) = urlNormalize (urlFilter u) := by
  unfold urlAttr
  rw [attr_roundtrip, nulToFFFD_urlNormalize]

end Lib.Html
