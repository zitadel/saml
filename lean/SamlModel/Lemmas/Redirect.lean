import SamlModel.Lemmas.Url
import SamlModel.Lemmas.Base64
/-!
  Lemmas.Redirect — the query string `BuildRedirectQuery` assembles (generated from redirect.go), how it splits
  back into parameters, and what the §3.4.4.1 verifier of Lib.Url reads from it.
-/
namespace Redirect
open Lib Lib.Url

/-- `url.QueryEscape s` as characters -/
def E (s : String) : List Char := queryEscapeBytes s.toUTF8.toList

theorem queryEscape_toList (s : String) : (Lib.queryEscape s).toList = E s := by
  simp [Lib.queryEscape, E]

def part (k : List Char) (v : String) : List Char := if v ≠ "" then '&' :: k ++ '=' :: E v else []

/-- the query `BuildRedirectQuery` assembles, as characters -/
def buildQ (resp relay alg sig : String) : List Char :=
  kSAMLResponse ++ '=' :: E resp ++ part kRelayState relay ++ part kSignature sig ++ part kSigAlg alg

theorem k1 : "SAMLResponse=".toList = kSAMLResponse ++ ['='] := by decide
theorem k2 : "&RelayState=".toList = '&' :: kRelayState ++ ['='] := by decide
theorem k3 : "&Signature=".toList = '&' :: kSignature ++ ['='] := by decide
theorem k4 : "&SigAlg=".toList = '&' :: kSigAlg ++ ['='] := by decide

theorem E_clean (s : String) : ∀ c ∈ E s, c ≠ '&' ∧ c ≠ '=' ∧ c ≠ '?' ∧ c ≠ '#' ∧ c.toNat < 128 := by
  intro c hc
  unfold E at hc
  rw [queryEscapeBytes_eq] at hc
  obtain ⟨b, _, hb⟩ := List.mem_flatMap.mp hc
  have := (escByte_table b).2
  unfold escClean at this
  have := List.all_eq_true.mp this c hb
  simp only [Bool.and_eq_true, bne_iff_ne, ne_eq, decide_eq_true_eq] at this
  exact ⟨this.1.1.1.1, this.1.1.1.2, this.1.1.2, this.1.2, this.2⟩

def renderParams : List (List Char × List Char) → List Char
  | [] => []
  | [(n, v)] => n ++ '=' :: v
  | (n, v) :: p :: rest => (n ++ '=' :: v) ++ '&' :: renderParams (p :: rest)

/-- parameters that `params` reads back from `renderParams`: no delimiter in a name, no `&` in a value -/
def Clean (ps : List (List Char × List Char)) : Prop := ∀ p ∈ ps, '=' ∉ p.1 ∧ '&' ∉ p.1 ∧ '&' ∉ p.2

theorem params_render (ps : List (List Char × List Char)) (hne : ps ≠ []) (h : Clean ps) : params (renderParams ps) = ps := by
  induction ps with
  | nil => exact absurd rfl hne
  | cons p rest ih =>
    obtain ⟨n, v⟩ := p
    have hp := h (n, v) (by simp)
    cases rest with
    | nil => exact params_last n v hp.1 hp.2.1 hp.2.2
    | cons q rest =>
      show params ((n ++ '=' :: v) ++ '&' :: renderParams (q :: rest)) = _
      rw [params_cons n v _ hp.1 hp.2.1 hp.2.2, ih (by simp) (fun x hx => h x (by simp [hx]))]

def opt (k : List Char) (v : String) : List (List Char × List Char) := if v ≠ "" then [(k, E v)] else []

theorem buildQ_render (resp relay alg sig : String) :
    buildQ resp relay alg sig =
      renderParams ((kSAMLResponse, E resp) :: (opt kRelayState relay ++ opt kSignature sig ++ opt kSigAlg alg)) := by
  by_cases h1 : relay = "" <;> by_cases h2 : sig = "" <;> by_cases h3 : alg = "" <;>
    simp [buildQ, part, opt, h1, h2, h3, renderParams]

theorem Clean.nil : Clean [] := fun _ h => nomatch h

theorem Clean.one {k : List Char} (hk : '=' ∉ k ∧ '&' ∉ k) (v : String) : Clean [(k, E v)] := by
  intro p hp
  rw [List.mem_singleton.mp hp]
  exact ⟨hk.1, hk.2, fun hm => (E_clean v _ hm).1 rfl⟩

theorem Clean.append {a b : List (List Char × List Char)} (ha : Clean a) (hb : Clean b) : Clean (a ++ b) :=
  fun p hp => (List.mem_append.mp hp).elim (ha p) (hb p)

/-- an optional parameter, whatever decides its presence -/
theorem Clean.ite {k : List Char} (hk : '=' ∉ k ∧ '&' ∉ k) (v : String) (c : Prop) [Decidable c] :
    Clean (if c then [(k, E v)] else []) := by
  split
  · exact .one hk v
  · exact .nil

theorem keys_clean : ∀ k ∈ [kSAMLResponse, kRelayState, kSignature, kSigAlg], '=' ∉ k ∧ '&' ∉ k := by decide

theorem buildQ_params (resp relay alg sig : String) :
    params (buildQ resp relay alg sig) =
      (kSAMLResponse, E resp) :: (opt kRelayState relay ++ opt kSignature sig ++ opt kSigAlg alg) := by
  rw [buildQ_render]
  have hk := keys_clean
  exact params_render _ (by simp) (Clean.append (.one (hk _ (by simp)) resp)
    (.append (.append (.ite (hk _ (by simp)) relay _) (.ite (hk _ (by simp)) sig _)) (.ite (hk _ (by simp)) alg _)))

theorem E_unescape (s : String) : queryUnescape (E s) = some s.toUTF8.toList := unescape_escape _

/-- `url.QueryEscape` is injective -/
theorem E_inj {s t : String} (h : E s = E t) : s = t := by
  have hs := E_unescape s
  rw [h, E_unescape t] at hs
  have hl : t.toUTF8.toList = s.toUTF8.toList := by simpa using hs
  rw [ba_toList, ba_toList] at hl
  exact (String.toByteArray_inj.mp (ByteArray.ext (Array.toList_inj.mp hl))).symm

/-- base64 text, read back from its UTF-8 bytes as characters, decodes to the bytes -/
theorem b64decode_utf8_b64encode (sig : List UInt8) :
    b64decode (String.ofList ((b64encode sig).toUTF8.toList.map fun x => Char.ofNat x.toNat)) = some sig := by
  have hascii := b64EncodeChars_ascii (sig.map (·.toNat))
  have e : (b64encode sig).toUTF8.toList.map (fun x => Char.ofNat x.toNat) = b64EncodeChars (sig.map (·.toNat)) := by
    unfold b64encode
    rw [ascii_toUTF8 _ hascii, List.map_map]
    conv => rhs; rw [← List.map_id (b64EncodeChars _)]
    apply List.map_congr_left
    intro c hc
    exact ascii_char_roundtrip c (hascii c hc)
  rw [e]
  exact b64decode_encode sig

theorem keys_distinct :
    (kSigAlg == kSAMLResponse) = false ∧ (kSigAlg == kRelayState) = false ∧ (kSigAlg == kSignature) = false ∧
    (kRelayState == kSAMLResponse) = false ∧ (kSignature == kSAMLResponse) = false ∧ (kSignature == kRelayState) = false ∧
    (kRelayState == kSignature) = false ∧ (kRelayState == kSigAlg) = false := by decide

/-- **Redirect binding, the query**: from the query actually sent, an independent implementation of §3.4.4.1
    reconstructs exactly the octets that were signed, the algorithm URI, and the signature value. -/
theorem verify_sent (resp relay alg : String) (sig : List UInt8) (halg : alg ≠ "") (hsig : sig ≠ []) :
    verify (buildQ resp relay alg (b64encode sig)) =
      some { octets := buildQ resp relay alg "", alg := alg.toUTF8.toList, sig := sig } := by
  have hs := b64encode_ne_empty sig hsig
  have hsr := b64decode_utf8_b64encode sig
  rw [String.toUTF8_eq_toByteArray] at hsr
  unfold verify verifierOctets verifierAlg verifierSig rawParam
  rw [buildQ_params]
  by_cases h1 : relay = ""
  · simp [opt, h1, hs, halg, List.lookup, keys_distinct, E_unescape, buildQ, part, hsr]
  · simp [opt, h1, hs, halg, List.lookup, keys_distinct, E_unescape, buildQ, part, hsr]

end Redirect
