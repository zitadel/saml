import SamlModel.Lib.HtmlTok
import SamlModel.Lemmas.Html
import SamlModel.Lemmas.Emit
/-! Frame lemmas for the HTML tokenizer slice and the newline normaliser. -/
namespace Lib.HtmlTok
open Lib.Html

open Lean in
/-- byte-string literal, expanded to a numeric list when the file is elaborated -/
macro:max "b!" s:str : term => do
  let bytes := s.getString.toUTF8.toList
  let elems ← bytes.toArray.mapM fun b => `(($(Syntax.mkNumLit (toString b.toNat)) : UInt8))
  `(([$elems,*] : List UInt8))

theorem run_nil (sc : Bool) (st : St) : run sc st [] = (st, []) := rfl

theorem run_cons (sc : Bool) (st : St) (x : UInt8) (xs : Lib.Bytes) :
    run sc st (x :: xs) = ((run sc (step sc st x).1 xs).1, (step sc st x).2 ++ (run sc (step sc st x).1 xs).2) :=
  Lib.emit_cons (step sc) st x xs

theorem run_append (sc : Bool) (st : St) (a c : Lib.Bytes) :
    run sc st (a ++ c) = ((run sc (run sc st a).1 c).1, (run sc st a).2 ++ (run sc (run sc st a).1 c).2) :=
  Lib.emit_append (step sc) st a c

theorem run_dq_body (sc : Bool) (e : Bool) (n a v w : Lib.Bytes) (hw : ∀ x ∈ w, x ≠ 0x22) :
    run sc { mode := .attrValDq, isEnd := e, name := n, aname := a, val := v } w =
      ({ mode := .attrValDq, isEnd := e, name := n, aname := a, val := v ++ w }, []) :=
  Lib.emit_collect (step sc) (fun v => { mode := .attrValDq, isEnd := e, name := n, aname := a, val := v }) _
    (by intro pre x hx; simp [step, hx]) v w hw

/-- **one hole**: an escaped value followed by the closing quote yields exactly one attribute event, whose value is the
    substituted value (NUL ↦ U+FFFD), and leaves the tokenizer in the after-attribute-value state -/
theorem run_hole {sc : Bool} {n a v rest : Lib.Bytes} (ha : a ≠ []) :
    run sc { mode := .attrValDq, isEnd := false, name := n, aname := a, val := [] } (attrEscape v ++ 0x22 :: rest) =
      ((run sc { mode := .afterAttrValQ, isEnd := false, name := n, aname := [], val := [] } rest).1,
       Event.attr a (nulToFFFD v) :: (run sc { mode := .afterAttrValQ, isEnd := false, name := n, aname := [], val := [] } rest).2) := by
  rw [run_append, run_dq_body sc false n a [] (attrEscape v) (fun x hx => (attrEscape_safe v x hx).1), run_cons]
  have hs : step sc { mode := .attrValDq, isEnd := false, name := n, aname := a, val := [] ++ attrEscape v } 0x22 =
      ({ mode := .afterAttrValQ, isEnd := false, name := n, aname := [], val := [] }, [Event.attr a (nulToFFFD v)]) := by
    simp [step, flushAttr, ha, attr_roundtrip]
  rw [hs]
  simp

theorem nlRun_cons (p : Bool) (x : UInt8) (xs : Lib.Bytes) :
    nlRun p (x :: xs) = ((nlRun (nlStep p x).1 xs).1, (nlStep p x).2 ++ (nlRun (nlStep p x).1 xs).2) :=
  Lib.emit_cons nlStep p x xs

theorem nlRun_append (p : Bool) (a c : Lib.Bytes) :
    nlRun p (a ++ c) = ((nlRun (nlRun p a).1 c).1, (nlRun p a).2 ++ (nlRun (nlRun p a).1 c).2) :=
  Lib.emit_append nlStep p a c

theorem nlRun_noCR (w : Lib.Bytes) (hw : ∀ y ∈ w, y ≠ 0x0D) : nlRun false w = (false, w) := by
  induction w with
  | nil => rfl
  | cons x xs ih =>
    have hx := hw x (by simp)
    rw [nlRun_cons]
    have hs : nlStep false x = (false, [x]) := by simp [nlStep, hx]
    rw [hs, ih (fun y hy => hw y (by simp [hy]))]; simp

/-- the escaper and the newline normaliser commute, byte by byte: no replacement contains CR or LF, and the two
    bytes the normaliser looks at are copied by the escaper -/
theorem nlRun_escapeByte (p : Bool) (x : UInt8) :
    nlRun p (attrEscapeByte x) = ((nlStep p x).1, attrEscape (nlStep p x).2) := by
  revert p
  refine attrEscapeByte_elim (P := fun x o => ∀ p, nlRun p o = ((nlStep p x).1, attrEscape (nlStep p x).2))
    (by decide) (by decide) (by decide) (by decide) (by decide) (by decide) (by decide) ?_ x
  intro x h0 h22 h26 h27 h2B h3C h3E p
  by_cases h1 : x = 0x0D
  · subst h1; revert p; decide
  by_cases h2 : x = 0x0A
  · subst h2; revert p; decide
  have hs : nlStep p x = (false, [x]) := by simp [nlStep, h1, h2]
  rw [nlRun_cons, hs]
  simp [nlRun, attrEscape, attrEscapeByte, h0, h22, h26, h27, h2B, h3C, h3E]

theorem nlRun_escape (p : Bool) (v : Lib.Bytes) : nlRun p (attrEscape v) = ((nlRun p v).1, attrEscape (nlRun p v).2) := by
  induction v generalizing p with
  | nil => simp [attrEscape, nlRun]
  | cons x xs ih =>
    rw [attrEscape_cons, nlRun_append, nlRun_escapeByte, ih, nlRun_cons]
    simp [attrEscape]

theorem normNL_noCR (w : Lib.Bytes) (hw : ∀ y ∈ w, y ≠ 0x0D) : normNL w = w := by
  simp [normNL, nlRun_noCR w hw]

end Lib.HtmlTok
