import SamlModel.Lib.XmlEscape
/-! Theorems about the XML text escaper: no markup in its output; the reference unescaper inverts it up to sanitisation. -/
namespace Lib

theorem escapeChars_cons (c : Char) (cs : List Char) : escapeChars (c :: cs) = escapeChar c ++ escapeChars cs := by
  simp [escapeChars]

theorem unescRun_append (st : UnescState) (a b : List Char) : unescRun st (a ++ b) = unescRun (unescRun st a) b := by
  simp [unescRun, List.foldl_append]

/-- the escape table as a case principle: eight characters have a reference, every other one is written sanitised -/
theorem escapeChar_elim {P : Char → List Char → Prop}
    (quot : P '"' ['&', '#', '3', '4', ';']) (apos : P '\'' ['&', '#', '3', '9', ';']) (amp : P '&' ['&', 'a', 'm', 'p', ';'])
    (lt : P '<' ['&', 'l', 't', ';']) (gt : P '>' ['&', 'g', 't', ';']) (tab : P '\t' ['&', '#', 'x', '9', ';'])
    (nl : P '\n' ['&', '#', 'x', 'A', ';']) (cr : P '\r' ['&', '#', 'x', 'D', ';'])
    (other : ∀ c, c ≠ '"' → c ≠ '\'' → c ≠ '&' → c ≠ '<' → c ≠ '>' → c ≠ '\t' → c ≠ '\n' → c ≠ '\r' → P c [sanitizeChar c])
    (c : Char) : P c (escapeChar c) := by
  unfold escapeChar
  by_cases h1 : c = '"'; · rw [if_pos h1, h1]; exact quot
  rw [if_neg h1]
  by_cases h2 : c = '\''; · rw [if_pos h2, h2]; exact apos
  rw [if_neg h2]
  by_cases h3 : c = '&'; · rw [if_pos h3, h3]; exact amp
  rw [if_neg h3]
  by_cases h4 : c = '<'; · rw [if_pos h4, h4]; exact lt
  rw [if_neg h4]
  by_cases h5 : c = '>'; · rw [if_pos h5, h5]; exact gt
  rw [if_neg h5]
  by_cases h6 : c = '\t'; · rw [if_pos h6, h6]; exact tab
  rw [if_neg h6]
  by_cases h7 : c = '\n'; · rw [if_pos h7, h7]; exact nl
  rw [if_neg h7]
  by_cases h8 : c = '\r'; · rw [if_pos h8, h8]; exact cr
  rw [if_neg h8]
  have : (if isXmlChar c = true then [c] else [replacementChar]) = [sanitizeChar c] := by
    unfold sanitizeChar; split <;> rfl
  rw [this]
  exact other c h1 h2 h3 h4 h5 h6 h7 h8

/-- the unescaper only ever appends to what it has written -/
theorem unescRun_out (out : List Char) (p : Option (List Char)) (f : Bool) (s : List Char) :
    unescRun { out := out, pending := p, failed := f } s =
      { unescRun { pending := p, failed := f } s with out := out ++ (unescRun { pending := p, failed := f } s).out } := by
  have := List.foldl_hom (fun t : UnescState => { t with out := out ++ t.out }) (g₁ := unescStep) (g₂ := unescStep) (l := s)
    (init := { pending := p, failed := f }) fun ⟨o, p, f⟩ x => by
      cases f
      · cases p <;> simp only [unescStep, Bool.false_eq_true, if_false, List.append_assoc] <;> repeat' split
        all_goals rfl
      · rfl
  rwa [List.append_nil] at this

theorem sanitizeChar_cases (c : Char) : sanitizeChar c = c ∨ sanitizeChar c = replacementChar := by
  unfold sanitizeChar; split <;> simp

theorem unesc_escapeChar (c : Char) : unescRun {} (escapeChar c) = { out := [sanitizeChar c] } := by
  refine escapeChar_elim (P := fun c o => unescRun {} o = { out := [sanitizeChar c] })
    (by decide) (by decide) (by decide) (by decide) (by decide) (by decide) (by decide) (by decide) ?_ c
  intro c _ _ h3 _ _ _ _ _
  have : sanitizeChar c ≠ '&' := by
    rcases sanitizeChar_cases c with h | h <;> rw [h]
    · exact h3
    · decide
  simp [unescRun, unescStep, this]

theorem unesc_escapeChars (out : List Char) (s : List Char) :
    unescRun { out := out } (escapeChars s) = { out := out ++ sanitize s } := by
  induction s generalizing out with
  | nil => simp [escapeChars, unescRun, sanitize]
  | cons c cs ih =>
    rw [escapeChars_cons, unescRun_append, unescRun_out out none false (escapeChar c), unesc_escapeChar, ih]
    simp [sanitize, List.append_assoc]

/-- **round trip**: unescaping what the marshaller's escaper wrote gives back the string, with characters that XML
    cannot carry replaced by U+FFFD — for every string -/
theorem refUnescape_escape (s : List Char) : refUnescape (escapeChars s) = some (sanitize s) := by
  unfold refUnescape
  have := unesc_escapeChars [] s
  simp only [List.nil_append] at this
  rw [show ({} : UnescState) = { out := [] } from rfl, this]
  simp

theorem sanitize_of_legal (s : List Char) (h : ∀ c ∈ s, isXmlChar c = true) : sanitize s = s := by
  rw [sanitize, List.map_congr_left (g := id) fun c hc => by simp [sanitizeChar, h c hc], List.map_id]

theorem escapeChar_clean (c : Char) :
    ∀ x ∈ escapeChar c, x ≠ '<' ∧ x ≠ '>' ∧ x ≠ '"' ∧ x ≠ '\'' ∧ x ≠ '\t' ∧ x ≠ '\n' ∧ x ≠ '\r' := by
  refine escapeChar_elim (P := fun _ o => ∀ x ∈ o, x ≠ '<' ∧ x ≠ '>' ∧ x ≠ '"' ∧ x ≠ '\'' ∧ x ≠ '\t' ∧ x ≠ '\n' ∧ x ≠ '\r')
    (by decide) (by decide) (by decide) (by decide) (by decide) (by decide) (by decide) (by decide) ?_ c
  intro c h1 h2 _ h4 h5 h6 h7 h8 x hx
  rw [List.mem_singleton.mp hx]
  rcases sanitizeChar_cases c with h | h <;> rw [h]
  · exact ⟨h4, h5, h1, h2, h6, h7, h8⟩
  · decide

theorem escapeChars_clean (s : List Char) :
    ∀ x ∈ escapeChars s, x ≠ '<' ∧ x ≠ '>' ∧ x ≠ '"' ∧ x ≠ '\'' ∧ x ≠ '\t' ∧ x ≠ '\n' ∧ x ≠ '\r' := by
  intro x hx
  obtain ⟨c, _, hc⟩ := List.mem_flatMap.mp hx
  exact escapeChar_clean c x hc

/-- **no markup**: the escaper's output never contains `<`, `>`, `"` or `'` — whatever the data -/
theorem escapeChars_no_markup (s : List Char) : ∀ x ∈ escapeChars s, x ≠ '<' ∧ x ≠ '>' ∧ x ≠ '"' ∧ x ≠ '\'' :=
  fun x hx => let h := escapeChars_clean s x hx; ⟨h.1, h.2.1, h.2.2.1, h.2.2.2.1⟩

/-- every `&` the escaper writes opens one of its eight references: the output is always well-formed for the unescaper -/
theorem escapeChars_wellformed (s : List Char) : (refUnescape (escapeChars s)).isSome := by
  rw [refUnescape_escape]; rfl

end Lib
