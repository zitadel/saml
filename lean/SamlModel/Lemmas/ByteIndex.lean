import SamlModel.Lib.Strings
/-!
  Lemmas.ByteIndex — `strings.Index` on a one-character needle and slicing at the offset it returns are
  `takeWhile` / `dropWhile` on the characters; the offset never exceeds `len(s)`.
-/
namespace Lib

theorem ofList_utf8ByteSize (l : List Char) : (String.ofList l).utf8ByteSize = (l.map Char.utf8Size).sum := by
  induction l with
  | nil => rfl
  | cons c l ih =>
    have : String.ofList (c :: l) = String.singleton c ++ String.ofList l := by
      apply String.toList_inj.mp; simp
    rw [this, String.utf8ByteSize_append, String.utf8ByteSize_singleton, ih]; simp

theorem utf8ByteSize_eq_sum (s : String) : s.utf8ByteSize = (s.toList.map Char.utf8Size).sum := by
  have := ofList_utf8ByteSize s.toList
  simpa using this

def bytesOf (l : List Char) : Nat := (l.map Char.utf8Size).sum

theorem indexCharAux_spec (c : Char) (l : List Char) (n : Nat) :
    (c ∈ l → indexCharAux c l n = ((n + bytesOf (l.takeWhile (· != c)) : Nat) : Int)) ∧
    (c ∉ l → indexCharAux c l n = -1) := by
  induction l generalizing n with
  | nil => simp [indexCharAux]
  | cons x xs ih =>
    by_cases hx : x = c
    · subst hx; simp [indexCharAux, bytesOf]
    · have hx' : (x != c) = true := by simpa using hx
      have hcx : ¬ c = x := fun h => hx h.symm
      constructor
      · intro hm
        have hm' : c ∈ xs := by simpa [hcx] using hm
        simp only [indexCharAux, hx, if_false, List.takeWhile_cons, hx', if_true]
        rw [(ih (n + x.utf8Size)).1 hm']
        simp only [bytesOf, List.map_cons, List.sum_cons]; omega
      · intro hm
        have hm' : c ∉ xs := by simpa [hcx] using hm
        simp only [indexCharAux, hx, if_false]
        exact (ih _).2 hm'

theorem bytesOf_cons (x : Char) (l : List Char) : bytesOf (x :: l) = x.utf8Size + bytesOf l := by
  simp [bytesOf]

theorem byteTakeAux_append (p s : List Char) : byteTakeAux (p ++ s) (bytesOf p) = p := by
  induction p with
  | nil => cases s <;> simp [byteTakeAux, bytesOf, Nat.not_le.mpr (Char.utf8Size_pos _)]
  | cons x p ih =>
    rw [List.cons_append, bytesOf_cons, byteTakeAux, if_pos (Nat.le_add_right _ _), Nat.add_sub_cancel_left, ih]

theorem byteDropAux_append (p s : List Char) : byteDropAux (p ++ s) (bytesOf p) = s := by
  induction p with
  | nil => cases s <;> simp [byteDropAux, bytesOf]
  | cons x p ih =>
    have := Char.utf8Size_pos x
    rw [List.cons_append, bytesOf_cons, byteDropAux, if_neg (by omega), if_pos (Nat.le_add_right _ _), Nat.add_sub_cancel_left, ih]

theorem bytesOf_takeWhile_le (p : Char → Bool) (l : List Char) : bytesOf (l.takeWhile p) ≤ bytesOf l := by
  induction l with
  | nil => simp
  | cons x xs ih =>
    simp only [List.takeWhile_cons]
    split
    · simp only [bytesOf, List.map_cons, List.sum_cons] at ih ⊢; omega
    · simp [bytesOf]

/-- `strings.Index(s, c) < 0` exactly when `c` does not occur -/
theorem indexChar_neg {s : String} {c : Char} (h : c ∉ s.toList) : indexChar s c = -1 :=
  (indexCharAux_spec c s.toList 0).2 h

theorem indexChar_nonneg {s : String} {c : Char} (h : c ∈ s.toList) :
    indexChar s c = (bytesOf (s.toList.takeWhile (· != c)) : Nat) := by
  have := (indexCharAux_spec c s.toList 0).1 h
  simpa [indexChar] using this

/-- the offset is within the string: slicing at it does not panic -/
theorem indexChar_le_len (s : String) (c : Char) : indexChar s c ≤ goLen s := by
  by_cases h : c ∈ s.toList
  · rw [indexChar_nonneg h, goLen, utf8ByteSize_eq_sum]
    have := bytesOf_takeWhile_le (· != c) s.toList
    simp only [bytesOf] at this
    exact Int.ofNat_le.mpr this
  · rw [indexChar_neg h, goLen]; omega

/-- `s[:strings.Index(s, c)]` is the part before the first `c` -/
theorem byteTake_indexChar {s : String} {c : Char} (h : c ∈ s.toList) :
    byteTake s (indexChar s c) = String.ofList (s.toList.takeWhile (· != c)) := by
  have := byteTakeAux_append (s.toList.takeWhile (· != c)) (s.toList.dropWhile (· != c))
  rw [List.takeWhile_append_dropWhile] at this
  rw [byteTake, indexChar_nonneg h]
  simp [this]

/-- `s[strings.Index(s, c):]` is the part from the first `c` on -/
theorem byteDrop_indexChar {s : String} {c : Char} (h : c ∈ s.toList) :
    byteDrop s (indexChar s c) = String.ofList (s.toList.dropWhile (· != c)) := by
  have := byteDropAux_append (s.toList.takeWhile (· != c)) (s.toList.dropWhile (· != c))
  rw [List.takeWhile_append_dropWhile] at this
  rw [byteDrop, indexChar_nonneg h]
  simp [this]

theorem goLen_pos (s : String) : (goLen s > 0) ↔ s ≠ "" := by
  unfold goLen
  constructor
  · intro h hs; subst hs; simp at h
  · intro h
    have : s.utf8ByteSize ≠ 0 := fun hz => h (String.utf8ByteSize_eq_zero_iff.mp hz)
    omega

end Lib
