import SamlModel.Lib.Uuid
/-! Lemmas.Uuid — every rendering of `NewID` is an NCName. -/
namespace Lib.Uuid

theorem hexLower_nameChar : ∀ n : Fin 16, isNameChar (hexLower n.val) = true := by decide

theorem hexByte_nameChar (b : UInt8) : ∀ c ∈ hexByte b, isNameChar c = true := by
  simp only [hexByte, List.forall_mem_cons]
  exact ⟨hexLower_nameChar ⟨b.toNat / 16, by have := b.toNat_lt; omega⟩, hexLower_nameChar ⟨b.toNat % 16, by omega⟩, nofun⟩

theorem hexBytes_nameChar (bs : List UInt8) : ∀ c ∈ hexBytes bs, isNameChar c = true := by
  intro c hc
  obtain ⟨b, _, hb⟩ := List.mem_flatMap.mp hc
  exact hexByte_nameChar b c hb

theorem render_nameChar (bs : List UInt8) : (render bs).all isNameChar = true := by
  have hd : isNameChar '-' = true := by decide
  have hx := hexBytes_nameChar
  simp only [render, List.all_append, List.all_cons, Bool.and_eq_true, List.all_eq_true, and_assoc]
  exact ⟨hx _, hd, hx _, hd, hx _, hd, hx _, hd, hx _⟩

/-- **every identifier `NewID` can return is a legal xs:ID**, whatever 16 bytes the generator drew (all 2^128 values,
    and any other length) -/
theorem newID_isXsID (bs : List UInt8) : isXsID (newID bs) = true := by
  simp only [newID, isXsID, Bool.and_eq_true]
  exact ⟨by decide, render_nameChar bs⟩

theorem render_length (bs : List UInt8) (h : bs.length = 16) : (render bs).length = 36 := by
  have hl : ∀ xs : List UInt8, (hexBytes xs).length = 2 * xs.length := by
    intro xs; induction xs with
    | nil => rfl
    | cons x xs ih => simp only [hexBytes, List.flatMap_cons, List.length_append] at ih ⊢; simp [hexByte, ih]; omega
  unfold render
  simp only [List.length_append, List.length_cons, hl, List.length_take, List.length_drop, h]
  omega

end Lib.Uuid
