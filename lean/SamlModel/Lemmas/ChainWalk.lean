import SamlModel.ChainSem
import SamlModel.Lemmas.GoAttr
/-!
  Walking a translated chain along a hand model.

  A hand model of a chain handler is nested code.  Read step by step it is a list of *verdicts*: every step either
  passes or ends the request with a result, and the first step that does not pass decides (`firstStop`).  A refinement
  proof then has one lemma per step - this `Go.Step`, run on a frame of which an invariant holds, does what that verdict
  says (`Does`) - and `follows_cons` chains them; no lemma is about a position in the chain or about a path through it.

  `obs` is what a client sees of a run of the chain and of what the handler does after it, `view` what it sees of a
  result of the model.
-/
namespace Go

/-- what one step decides: go on, or end the request with this result -/
inductive Verdict (ρ : Type) where
  | pass
  | stop (r : ρ)

variable {σ ρ ω α : Type}

/-- the first step that does not pass ends the request; a request that passes every step ends with `done` -/
def firstStop (done : ρ) : List (Verdict ρ) → ρ
  | [] => done
  | .pass :: vs => firstStop done vs
  | .stop r :: _ => r

/-- a step that fails exactly when `c` holds -/
def stopIf (c : Bool) (r : ρ) : Verdict ρ := bif c then .stop r else .pass

/-- a step that first runs translated code; `panic` is the result the request ends with when that code panics -/
def bindV (panic : ρ) (a : Res α) (f : α → Verdict ρ) : Verdict ρ :=
  match a with
  | .panic => .stop panic
  | .ok x => f x

/-- a step that fails exactly when translated code returns an error -/
def stopOnErr (panic : ρ) (e : Res Err) (r : ρ) : Verdict ρ := bindV panic e fun e => stopIf e.isSome r

theorem firstStop_stopIf (d : ρ) (c : Bool) (r : ρ) (vs : List (Verdict ρ)) :
    firstStop d (stopIf c r :: vs) = bif c then r else firstStop d vs := by cases c <;> rfl

theorem firstStop_bindV (d panic : ρ) (a : Res α) (f : α → Verdict ρ) (vs : List (Verdict ρ)) :
    firstStop d (bindV panic a f :: vs) = match a with
      | .panic => panic
      | .ok x => firstStop d (f x :: vs) := by cases a <;> rfl

theorem stopIf_pass {c : Bool} {r : ρ} (h : stopIf c r = .pass) : c = false := by
  cases c
  · rfl
  · cases h

/-- the result matters only where the step stops (`h` is given that it does) -/
theorem stopIf_congr {c : Bool} {r r' : ρ} (h : c = true → r = r') : stopIf c r = stopIf c r' := by
  cases c
  · rfl
  · rw [h rfl]

/-- `f` matters only at what the translated code returns (`h` is given that it returned `x`) -/
theorem bindV_congr {panic : ρ} {a : Res α} {f f' : α → Verdict ρ} (h : ∀ x, a = .ok x → f x = f' x) :
    bindV panic a f = bindV panic a f' := by
  cases a with
  | panic => rfl
  | ok x => exact h x rfl

section walk
variable (obs : Res (Bool × σ) → Option ω) (view : ρ → ω) (done : ρ)

/-- the chain `steps`, run on from `s`, is observably what the verdicts `vs` decide -/
def Follows (steps : List (Step σ)) (s : σ) (vs : List (Verdict ρ)) : Prop :=
  obs (runDirect steps s) = some (view (firstStop done vs))

/-- the run `x` of a step ends the request, observably with the result `r` -/
def Stops (x : Res (Bool × σ)) (r : ρ) : Prop := (∀ s', x ≠ .ok (false, s')) ∧ obs x = some (view r)

/-- the step does what the verdict says; `K` is what a passing run leaves in the frame -/
def Does (st : Step σ) (s : σ) (K : σ → Prop) : Verdict ρ → Prop
  | .pass => ∃ s', st.run s = .ok (false, s') ∧ K s'
  | .stop r => Stops obs view (st.run s) r

variable {obs view done}

/-- one step against one verdict; the rest of the chain is walked only for a passing verdict (`hrest` receives `v = .pass`, off
    which the facts that bridge two steps are read) and from a frame of which `K` holds -/
theorem follows_cons {st : Step σ} {rest : List (Step σ)} {s : σ} {K : σ → Prop} {v : Verdict ρ} {vs : List (Verdict ρ)}
    (h : Does obs view st s K v) (hrest : v = .pass → ∀ s', K s' → Follows obs view done rest s' vs) :
    Follows obs view done (st :: rest) s (v :: vs) := by
  cases v with
  | pass =>
    obtain ⟨s', hr, hk⟩ := h
    unfold Follows; rw [runDirect_cons, hr]
    exact hrest rfl s' hk
  | stop r =>
    obtain ⟨hne, hobs⟩ := h
    unfold Follows; rw [runDirect_cons]
    cases hx : st.run s with
    | panic => rw [hx] at hobs; exact hobs
    | ok p =>
      obtain ⟨b, s'⟩ := p
      cases b with
      | true => rw [hx] at hobs; exact hobs
      | false => exact absurd hx (hne s')

/-- `follows_cons` for a step lemma whose verdict is stated in other terms than the model's -/
theorem follows_cons' {st : Step σ} {rest : List (Step σ)} {s : σ} {K : σ → Prop} {v v' : Verdict ρ}
    {vs : List (Verdict ρ)} (h : Does obs view st s K v') (hv : v = v')
    (hrest : v' = .pass → ∀ s', K s' → Follows obs view done rest s' vs) :
    Follows obs view done (st :: rest) s (v :: vs) :=
  hv ▸ follows_cons h hrest

-- a step lemma is proved by running the step (`gosem`), which also unfolds what it is to show (so `firstStop_stopIf` and
-- `firstStop_bindV`, which speak of `stopIf` / `bindV` folded, are to be rewritten with before `gosem`, not in it)
attribute [gosem] Does stopIf stopOnErr bindV

theorem stops_panic {panic : ρ} (hobs : obs .panic = some (view panic)) : Stops obs view .panic panic :=
  ⟨fun _ => nofun, hobs⟩

/-! ### logic steps

  What a logic step does follows from what its closures compute on the frame at hand.  `hc` and `hl` below are equations that
  running a closure whose body is one call (`simp only [cloN, gosem, k.h…]`) shows without looking at what the environment
  answers; the case analysis on the answer is done here, once.  A closure with an early return has no such equation: its step
  is proved by cases on the answer. -/

/-- what generated code makes of a call `r` that leaves the frame `s'`: `if r.isPanic then panic else (r.get, s')` -/
abbrev Res.inFrame [Inhabited α] (r : Res α) (s' : σ) : Res (α × σ) := bif r.isPanic then .panic else .ok (r.get, s')

variable {panic r : ρ} {s s₁ s' : σ} {K : σ → Prop} {e : Clo σ Unit}

/-- a step is looked at only through its run -/
theorem does_of_run {st st' : Step σ} {v : Verdict ρ} (h : st.run s = st'.run s₁) (h' : Does obs view st' s₁ K v) :
    Does obs view st s K v := by
  cases v <;> simp only [Does, h] <;> exact h'

/-- `WithLogicStep`: the logic closure computes `L` and leaves `s'`, the callback writes `r` -/
theorem does_logic (hobs : obs .panic = some (view panic)) {l : Clo σ Err} {L : Res Err}
    (hl : l s = L.inFrame s') (hK : L = .ok none → K s')
    (hfail : ∀ err, L = .ok (some err) → Stops obs view (failWith e s') r) :
    Does obs view (.withLogicStep l e) s K (stopOnErr panic L r) := by
  rcases L with (_ | err) | _ <;> simp only [Does, stopOnErr, bindV, stopIf, Step.run, Clo.andThen, hl, gosem]
  · exact ⟨_, rfl, hK rfl⟩
  · exact hfail err rfl
  · exact stops_panic hobs

/-- `WithConditionalLogicStep`: the condition closure computes `C` and leaves `s₁`, where the logic closure computes `L` -/
theorem does_condLogic (hobs : obs .panic = some (view panic)) {cnd : Clo σ Bool} {l : Clo σ Err} {C : Res Bool} {L : Res Err}
    (hc : cnd s = C.inFrame s₁) (hK₁ : C = .ok false → K s₁)
    (hl : l s₁ = L.inFrame s') (hK : L = .ok none → K s')
    (hfail : ∀ err, L = .ok (some err) → Stops obs view (failWith e s') r) :
    Does obs view (.withConditionalLogicStep cnd l e) s K
      (bindV panic C fun c => bif c then stopOnErr panic L r else .pass) := by
  rcases C with (_ | _) | _
  · simp only [Does, bindV, Step.run, Clo.andThen, hc, gosem]
    exact ⟨_, rfl, hK₁ rfl⟩
  · exact does_of_run (by simp only [Step.run, Clo.andThen, hc]; rfl) (does_logic hobs hl hK hfail)
  · simp only [Does, bindV, Step.run, Clo.andThen, hc, gosem]
    exact stops_panic hobs

end walk

end Go
