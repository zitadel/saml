import SamlModel.ChainSem
import SamlModel.Lemmas.GoAttr
/-!
  The simp set `gosem` (see `GoAttr`), and the loop lemmas the characterisations of generated functions share.

  How a generated function `F` is characterised (`F args = spec`):
  1. name what the environment answers (`rcases h : o.f_Marshal … with ⟨data, e⟩`, `generalize h : o.writeErr … = w`)
     while `F` is still folded;
  2. run the body once, `simp only [F, F.body, gosem, spec, h, …]`, then `simp only [Bool.cond_eq_ite]`: the body is now a
     tree of `if`s over the arguments and the named answers, each early `return` a leaf;
  3. split on the names and on the conditions, pruning with `simp`.
  Splitting first would simplify the whole body again in every case.

  Why `gosem` turns every `if b = true` of the generated code into `bif b` first (`ite_eq_cond`): `simp` rewrites the
  condition of an `if` but keeps the old, definitionally equal `Decidable` instance, so every `if` would go on carrying
  its unsimplified condition, whole frames included.  Such a goal prints small and is small as a DAG, but its tree is
  astronomically large: `generalize e`, `rcases e with`, `cases e` and `rw` on a compound `e`, which abstract it from the
  goal without a cache, do not come back, and `simp` itself slows down.  `bif` has no instance to go stale;
  `Bool.cond_eq_ite` afterwards brings back `if`s with fresh ones.  (The `decide (i ≥ 0)` of an integer comparison
  keeps its stale instance all the same; where a body has such tests, step 1 matters.)

  `Ctl.seq_cond` copies the continuation into both branches; a branch that returns drops its copy at once.  Where both
  branches of an `if` fall through and much follows, decide the condition first.
-/
namespace Go

variable {σ ρ α : Type}

theorem ite_eq_cond (b : Bool) [Decidable (b = true)] (x y : α) : (if b = true then x else y) = bif b then x else y := by
  cases b <;> simp

theorem Ctl.seq_cond (c : Bool) (a b : Ctl σ ρ) (k : σ → Ctl σ ρ) :
    (bif c then a else b).seq k = bif c then a.seq k else b.seq k := by cases c <;> rfl

theorem Ctl.toRes_cond (c : Bool) (a b : Ctl σ ρ) (d : ρ) :
    (bif c then a else b).toRes d = bif c then a.toRes d else b.toRes d := by cases c <;> rfl

theorem Ctl.toClo_cond [Inhabited α] (c : Bool) (a b : Ctl σ (α × σ)) :
    (bif c then a else b).toClo = bif c then a.toClo else b.toClo := by cases c <;> rfl

/-- the nil guard the translator repeats inside `if x != nil { … *x … }` never fires -/
theorem cond_not_cond (b : Bool) (A B C : α) :
    (bif !b then (bif b then A else B) else C) = bif !b then B else C := by cases b <;> rfl

/-- the value an `if x != nil { f = *x }` block leaves in `f` -/
theorem cond_deref [Inhabited α] (x : Option α) (d : α) : (bif !x.isNone then deref x else d) = x.getD d := by
  cases x <;> rfl

/-- an `if` both of whose branches fall through is a choice between frames (so that `Ctl.seq_cond` need not copy what
    follows) -/
theorem cond_next (c : Bool) (a b : σ) :
    (bif c then (Ctl.next a : Ctl σ ρ) else .next b) = .next (bif c then a else b) := by cases c <;> rfl

/-- what `Clo.andThen` does with the closure's result; `Clo.andThen_eq` turns the former into this, which the lemmas
    below push through `bif` -/
def Res.andThen {β : Type} (r : Res (α × σ)) (k : α → σ → Res β) : Res β :=
  match r with
  | .panic => .panic
  | .ok (a, s) => k a s

variable {β : Type}
theorem Clo.andThen_eq (f : Clo σ α) (k : α → σ → Res β) (s : σ) : f.andThen k s = (f s).andThen k := by
  unfold Clo.andThen Res.andThen; rfl
theorem Res.andThen_ok (a : α) (s : σ) (k : α → σ → Res β) : (Res.ok (a, s)).andThen k = k a s := rfl
theorem Res.andThen_panic (k : α → σ → Res β) : (Res.panic : Res (α × σ)).andThen k = .panic := rfl
theorem Res.andThen_cond (c : Bool) (x y : Res (α × σ)) (k : α → σ → Res β) :
    (bif c then x else y).andThen k = bif c then x.andThen k else y.andThen k := by cases c <;> rfl

attribute [gosem] ite_eq_cond cond_true cond_false
  runDirect_nil runDirect_cons_eq Step.run failWith Clo.andThen_eq Res.andThen_ok Res.andThen_panic Res.andThen_cond
  Ctl.seq_next Ctl.seq_ret Ctl.seq_panic Ctl.seq_brk Ctl.seq_cont Ctl.seq_cond
  Ctl.toRes_ret Ctl.toRes_panic Ctl.toRes_next Ctl.toRes_cond
  Ctl.toClo_ret Ctl.toClo_panic Ctl.toClo_next Ctl.toClo_cond
  deref_some Res.isPanic_ok Res.isPanic_panic Res.get_ok
  Option.isNone_some Option.isNone_none Option.isSome_some Option.isSome_none Option.getD_some Option.getD_none
  List.nil_append
  Bool.false_or Bool.or_false Bool.true_or Bool.or_true Bool.true_and Bool.and_true Bool.false_and Bool.and_false
  Bool.not_true Bool.not_false Bool.false_eq_true if_true if_false

theorem ite_some_eq_none {α : Type} {c : Prop} [Decidable c] {e : α} {x : Option α} :
    (if c then some e else x) = none ↔ ¬ c ∧ x = none := by
  by_cases h : c <;> simp [h]

theorem ite_ok_some_eq_ok_none {α : Type} {c : Prop} [Decidable c] {e : α} {x : Res (Option α)} :
    (if c then .ok (some e) else x) = .ok none ↔ ¬ c ∧ x = .ok none := by
  by_cases h : c <;> simp [h]

/-- what a handler keeps of a call that returns a value and an error (`v, err := f(); if err != nil { … }`), for a callee
    that returns a value whenever it returns no error -/
theorem valueOf_isNone {α : Type} {r : Option α × Err} (h : r.2 = none → r.1.isSome) :
    (if r.2.isNone then r.1 else none).isNone = r.2.isSome := by
  obtain ⟨v, e⟩ := r
  cases e with
  | some e => rfl
  | none => simpa using h rfl

/-- the same contract at a call whose answer has been named: no error, so there is a value -/
theorem value_of_noErr {α : Type} {r : Option α × Err} {v : Option α} (h : r.2 = none → r.1.isSome) (hr : r = (v, none)) :
    ∃ x, v = some x :=
  Option.isSome_iff_exists.mp (by subst hr; exact h rfl)

/-- `for _, x := range xs { if p x { s = f s; break } }`: a search that records its hit in the frame.  `I` is what the
    body has to know about the frame to take this form (the nil guards it re-checks); the frame does not change before
    the hit, so `I` need not be shown to be preserved. -/
theorem goFor_brk_any {I : σ → Prop} {body : α → σ → Ctl σ ρ} {p : α → Bool} {f : σ → σ}
    (hb : ∀ x s, I s → body x s = if p x = true then .brk (f s) else .next s) (xs : List α) (s : σ) (hs : I s) :
    goFor xs s body = .next (if xs.any p = true then f s else s) := by
  induction xs with
  | nil => rfl
  | cons x xs ih =>
    rw [goFor_cons, hb x s hs, List.any_cons]
    cases p x
    · simpa using ih
    · rfl

/-- `for _, x := range xs { if p x { return r } }`: a search that returns at its first hit.  The frame does not change
    on the way, so the body need only be known at the frame the loop starts from. -/
theorem goFor_ret_any {body : α → σ → Ctl σ ρ} {p : α → Bool} {r : ρ} (s : σ)
    (hb : ∀ x, body x s = if p x = true then .ret r else .next s) (xs : List α) :
    goFor xs s body = if xs.any p = true then .ret r else .next s := by
  induction xs with
  | nil => rfl
  | cons x xs ih =>
    rw [goFor_cons, hb x, List.any_cons]
    cases p x
    · simpa using ih
    · rfl

/-- `for _, x := range xs { s = g x s }`: a loop whose body only updates the frame.  `P xs s` is any closed form of
    running it over `xs` from `s`. -/
theorem goFor_acc {body : α → σ → Ctl σ ρ} {g : α → σ → σ} (hb : ∀ x s, body x s = .next (g x s))
    (P : List α → σ → σ) (h0 : ∀ s, P [] s = s) (hc : ∀ x xs s, P xs (g x s) = P (x :: xs) s) (xs : List α) (s : σ) :
    goFor xs s body = .next (P xs s) := by
  induction xs generalizing s with
  | nil => rw [goFor_nil, h0]
  | cons x xs ih => rw [goFor_cons, hb]; exact (ih _).trans (congrArg _ (hc x xs s))

/-- `goFor_acc` with the fold itself as closed form -/
theorem goFor_fold (g : α → σ → σ) (xs : List α) (s : σ) :
    goFor xs s (fun x s => (Ctl.next (g x s) : Ctl σ ρ)) = Ctl.next (xs.foldl (fun s x => g x s) s) :=
  goFor_acc (fun _ _ => rfl) (fun xs s => xs.foldl (fun s x => g x s) s) (fun _ => rfl) (fun _ _ _ => rfl) xs s

/-- `for _, x := range xs { …; if found { return r } }; c`: a search that returns at the first element for which `g`
    says so, followed by something that does not look at the frame; elsewhere the body falls through or continues. -/
theorem goFor_ret_first {body : α → σ → Ctl σ ρ} {g : α → Option ρ}
    (hb : ∀ x s, match g x with
      | some r => body x s = .ret r
      | none => ∃ s', body x s = .next s' ∨ body x s = .cont s') (xs : List α) (s : σ) (c : Ctl σ ρ) :
    ((goFor xs s body).seq fun _ => c) = match xs.findSome? g with | some r => .ret r | none => c := by
  induction xs generalizing s with
  | nil => rfl
  | cons x xs ih =>
    have hx := hb x s
    rw [goFor_cons, List.findSome?_cons]
    cases hg : g x with
    | some r => rw [hg] at hx; rw [hx]; rfl
    | none =>
      rw [hg] at hx
      obtain ⟨s', h | h⟩ := hx <;> rw [h] <;> exact ih s'

end Go
