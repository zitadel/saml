/-! Lemmas.Sweep — a property of all 256 byte values may be decided by running through them. -/

theorem UInt8.forall_of_fin {p : UInt8 → Prop} (h : ∀ k : Fin 256, p (UInt8.ofNat k.val)) (x : UInt8) : p x := by
  have := h ⟨x.toNat, x.toNat_lt⟩
  rwa [UInt8.ofNat_toNat] at this
