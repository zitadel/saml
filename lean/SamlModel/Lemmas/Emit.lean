/-!
  Lemmas.Emit — the fold that the reference tokenizers (`Lib.Xml.run`, `Lib.HtmlTok.run`) and the newline normaliser
  (`Lib.HtmlTok.nlRun`) all are: a state machine that emits a list of outputs per input.  The three are written out in
  the model files as this very `foldl`, so each is `emit` of its step function by definition; their `_cons`, `_append`
  and collecting lemmas are stated as instances of the lemmas here and check by unfolding.
-/
namespace Lib

def emit (step : σ → α → σ × List β) (st : σ) (xs : List α) : σ × List β :=
  xs.foldl (fun (acc : σ × List β) x => let (s', out) := step acc.1 x; (s', acc.2 ++ out)) (st, [])

variable (step : σ → α → σ × List β)

theorem emit_acc (st : σ) (pre : List β) (xs : List α) :
    xs.foldl (fun (acc : σ × List β) x => let (s', out) := step acc.1 x; (s', acc.2 ++ out)) (st, pre) =
      ((emit step st xs).1, pre ++ (emit step st xs).2) := by
  induction xs generalizing st pre with
  | nil => simp [emit]
  | cons x xs ih => simp only [emit, List.foldl_cons, List.nil_append]; rw [ih, ih (pre := (step st x).2)]; simp

theorem emit_cons (st : σ) (x : α) (xs : List α) :
    emit step st (x :: xs) = ((emit step (step st x).1 xs).1, (step st x).2 ++ (emit step (step st x).1 xs).2) := by
  simp only [emit, List.foldl_cons, List.nil_append]; exact emit_acc step _ _ xs

theorem emit_append (st : σ) (a b : List α) :
    emit step st (a ++ b) = ((emit step (emit step st a).1 b).1, (emit step st a).2 ++ (emit step (emit step st a).1 b).2) := by
  simp only [emit, List.foldl_append]; exact emit_acc step _ _ b

/-- a state that only collects its input: `g` gives the state as a function of what has been collected, `P` is the class
    of inputs it collects without emitting -/
theorem emit_collect (g : List α → σ) (P : α → Prop) (hstep : ∀ pre x, P x → step (g pre) x = (g (pre ++ [x]), []))
    (pre w : List α) (hw : ∀ x ∈ w, P x) : emit step (g pre) w = (g (pre ++ w), []) := by
  induction w generalizing pre with
  | nil => simp [emit]
  | cons x xs ih =>
    rw [emit_cons, hstep pre x (hw x (by simp)), ih (pre ++ [x]) (fun y hy => hw y (by simp [hy]))]
    simp

end Lib
