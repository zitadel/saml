import SamlModel.Lib.Url
import SamlModel.Lemmas.Sweep
/-!
  Lemmas.Url — `QueryUnescape ∘ QueryEscape = id` for all byte strings, the UTF-8 bytes of ASCII strings,
  how a query assembled from escaped values splits back into its parameters, and the consumer URL cut at its fragment.
-/
namespace Lib.Url
open Lib

theorem ba_len (bs : ByteArray) : bs.data.toList.length = bs.size := by
  rw [Array.length_toList]; rfl

theorem ba_loop (bs : ByteArray) (n : Nat) : ∀ (i : Nat) (r : List UInt8), bs.size - i = n →
    ByteArray.toList.loop bs i r = r.reverse ++ bs.data.toList.drop i := by
  induction n with
  | zero =>
    intro i r h
    unfold ByteArray.toList.loop
    have : ¬ i < bs.size := by omega
    simp only [this, if_false]
    have : bs.data.toList.length ≤ i := by rw [ba_len]; omega
    rw [List.drop_eq_nil_of_le this]; simp
  | succ n ih =>
    intro i r h
    unfold ByteArray.toList.loop
    have hi : i < bs.size := by omega
    simp only [hi, if_true]
    rw [ih (i+1) _ (by omega)]
    have hl : i < bs.data.toList.length := by rw [ba_len]; exact hi
    rw [List.drop_eq_getElem_cons hl]
    have : bs.get! i = bs.data.toList[i] := by
      simp only [ByteArray.get!]
      rw [getElem!_pos bs.data i (by simpa [ba_len] using hi)]
      simp
    rw [this]; simp

theorem ba_toList (bs : ByteArray) : bs.toList = bs.data.toList := by
  unfold ByteArray.toList
  rw [ba_loop bs _ 0 [] rfl]; simp

theorem toUTF8_ofList (cs : List Char) : (String.ofList cs).toUTF8.toList = cs.flatMap String.utf8EncodeChar := by
  rw [ba_toList, String.toUTF8_eq_toByteArray, String.toByteArray_ofList]
  simp [List.utf8Encode]

theorem ascii_toUTF8 (cs : List Char) (h : ∀ c ∈ cs, c.toNat < 128) :
    (String.ofList cs).toUTF8.toList = cs.map (fun c => c.val.toUInt8) := by
  rw [toUTF8_ofList]
  induction cs with
  | nil => rfl
  | cons c cs ih =>
    have hc : c.toNat < 128 := h c (by simp)
    have : c.utf8Size = 1 := Char.utf8Size_eq_one_iff.mpr (by
      show c.val.toNat ≤ 127
      have : c.val.toNat = c.toNat := rfl
      omega)
    simp only [List.flatMap_cons, List.map_cons, String.utf8EncodeChar_eq_singleton this]
    rw [ih (fun x hx => h x (by simp [hx]))]
    rfl

theorem ascii_char_roundtrip (c : Char) (h : c.toNat < 128) : Char.ofNat (c.val.toUInt8.toNat) = c := by
  have : c.val.toUInt8.toNat = c.toNat := by
    show c.val.toNat % 256 = c.val.toNat
    have : c.val.toNat = c.toNat := rfl
    omega
  rw [this]; exact Char.ofNat_toNat c

def escByte (b : UInt8) : List Char :=
  if unreservedByte b then [Char.ofNat b.toNat]
  else if b == 0x20 then ['+']
  else ['%', hexDigit (b.toNat / 16), hexDigit (b.toNat % 16)]

theorem queryEscapeBytes_eq (bs : List UInt8) : queryEscapeBytes bs = bs.flatMap escByte := rfl

theorem unesc_plain {c : Char} {rest : List Char} (h1 : c ≠ '%') (h2 : c ≠ '+') :
    queryUnescape (c :: rest) = (queryUnescape rest).map (charBytes c ++ ·) := by
  rw [queryUnescape] <;> simp [h1, h2]

theorem unesc_plus (rest : List Char) : queryUnescape ('+' :: rest) = (queryUnescape rest).map ((0x20 : UInt8) :: ·) := by
  rw [queryUnescape]

theorem unesc_pct {x y : Char} {hi lo : Nat} {rest : List Char} (hx : hexVal? x = some hi) (hy : hexVal? y = some lo) :
    queryUnescape ('%' :: x :: y :: rest) = (queryUnescape rest).map (UInt8.ofNat (hi * 16 + lo) :: ·) := by
  rw [queryUnescape, hx, hy]

/-- shape of one escaped byte: it unescapes to the byte -/
def escOk (b : UInt8) : Bool :=
  match escByte b with
  | [c] => (c != '%' && c != '+' && charBytes c == [b]) || (c == '+' && b == 0x20)
  | ['%', x, y] => match hexVal? x, hexVal? y with
      | some hi, some lo => UInt8.ofNat (hi * 16 + lo) == b
      | _, _ => false
  | _ => false

def escClean (b : UInt8) : Bool :=
  (escByte b).all fun c => c != '&' && c != '=' && c != '?' && c != '#' && decide (c.toNat < 128)

/-- both, decided over all 256 byte values in one sweep -/
theorem escByte_table (b : UInt8) : escOk b = true ∧ escClean b = true := by
  revert b; exact UInt8.forall_of_fin (by decide +kernel)

theorem unesc_escByte (b : UInt8) (rest : List Char) :
    queryUnescape (escByte b ++ rest) = (queryUnescape rest).map (b :: ·) := by
  have h := (escByte_table b).1
  unfold escOk at h
  split at h
  next c hc =>
    rw [hc]
    simp only [Bool.or_eq_true, Bool.and_eq_true, bne_iff_ne, ne_eq, beq_iff_eq] at h
    rcases h with ⟨⟨h1, h2⟩, h3⟩ | ⟨h1, h2⟩
    · simp only [List.singleton_append]
      rw [unesc_plain h1 h2, h3]; rfl
    · subst h1; subst h2
      simp only [List.singleton_append]; rw [unesc_plus]
  next x y hc =>
    rw [hc]
    split at h
    next hi lo hx hy =>
      simp only [beq_iff_eq] at h
      simp only [List.cons_append, List.nil_append]
      rw [unesc_pct hx hy, h]
    next => simp at h
  next => simp at h

theorem unescape_escape (bs : List UInt8) : queryUnescape (queryEscapeBytes bs) = some bs := by
  rw [queryEscapeBytes_eq]
  induction bs with
  | nil => rfl
  | cons b bs ih => simp only [List.flatMap_cons]; rw [unesc_escByte, ih]; rfl

theorem splitOn_cons_sep (sep : Char) (cs : List Char) : splitOn sep (sep :: cs) = [] :: splitOn sep cs := by
  conv => lhs; unfold splitOn
  simp

theorem splitOn_cons_ne (sep c : Char) (cs : List Char) (h : c ≠ sep) :
    splitOn sep (c :: cs) = match splitOn sep cs with
      | [] => [[c]]
      | a :: t => (c :: a) :: t := by
  conv => lhs; unfold splitOn
  rw [if_neg h]
  rfl

theorem splitOn_ne_nil (sep : Char) (a : List Char) : splitOn sep a ≠ [] := by
  induction a with
  | nil => simp [splitOn]
  | cons c cs ih =>
    unfold splitOn
    split
    · simp
    · split <;> simp

theorem splitOn_noSep (sep : Char) (a : List Char) (h : sep ∉ a) : splitOn sep a = [a] := by
  induction a with
  | nil => rfl
  | cons c cs ih =>
    rw [List.mem_cons, not_or] at h
    unfold splitOn
    rw [if_neg (Ne.symm h.1), ih h.2]

theorem splitOn_append (sep : Char) (a b : List Char) (h : sep ∉ a) :
    splitOn sep (a ++ sep :: b) = a :: splitOn sep b := by
  induction a with
  | nil => simp [splitOn]
  | cons c cs ih =>
    rw [List.mem_cons, not_or] at h
    simp only [List.cons_append]
    conv => lhs; unfold splitOn
    rw [if_neg (Ne.symm h.1), ih h.2]

theorem cutEq_append (n v : List Char) (h : '=' ∉ n) : cutEq (n ++ '=' :: v) = some (n, v) := by
  induction n with
  | nil => simp [cutEq]
  | cons c cs ih =>
    rw [List.mem_cons, not_or] at h
    simp only [List.cons_append]
    unfold cutEq
    rw [if_neg (Ne.symm h.1), ih h.2]; rfl

theorem amp_notMem_pair {n v : List Char} (hn : '&' ∉ n) (hv : '&' ∉ v) : '&' ∉ n ++ '=' :: v := by
  simp [hn, hv]

theorem params_cons (n v rest : List Char) (hn : '=' ∉ n) (hn' : '&' ∉ n) (hv : '&' ∉ v) :
    params (n ++ '=' :: v ++ '&' :: rest) = (n, v) :: params rest := by
  unfold params
  rw [splitOn_append '&' _ rest (amp_notMem_pair hn' hv), List.filterMap_cons, cutEq_append n v hn]

theorem params_last (n v : List Char) (hn : '=' ∉ n) (hn' : '&' ∉ n) (hv : '&' ∉ v) :
    params (n ++ '=' :: v) = [(n, v)] := by
  unfold params
  rw [splitOn_noSep '&' _ (amp_notMem_pair hn' hv)]
  simp [cutEq_append n v hn]

theorem params_amp (pre q : List Char) : params (pre ++ '&' :: q) = params pre ++ params q := by
  unfold params
  suffices h : splitOn '&' (pre ++ '&' :: q) = splitOn '&' pre ++ splitOn '&' q by rw [h, List.filterMap_append]
  induction pre with
  | nil => simp [splitOn]
  | cons c cs ih =>
    simp only [List.cons_append]
    by_cases hc : c = '&'
    · subst hc
      rw [splitOn_cons_sep, splitOn_cons_sep, ih]; rfl
    · rw [splitOn_cons_ne _ _ _ hc, splitOn_cons_ne _ _ _ hc, ih]
      cases h : splitOn '&' cs with
      | nil => exact absurd h (splitOn_ne_nil _ _)
      | cons a t => simp

theorem lookup_append_of_absent (k : List Char) (xs ys : List (List Char × List Char))
    (h : ∀ p ∈ xs, p.1 ≠ k) : (xs ++ ys).lookup k = ys.lookup k := by
  rw [List.lookup_append, List.lookup_eq_none_iff.mpr fun p hp => by simpa using Ne.symm (h p hp), Option.none_or]

theorem rawQuery_append (acs q : List Char) (h : '?' ∉ acs) : rawQuery (acs ++ '?' :: q) = q := by
  induction acs with
  | nil => simp [rawQuery]
  | cons c cs ih =>
    rw [List.mem_cons, not_or] at h
    simp only [List.cons_append, rawQuery, if_neg (Ne.symm h.1)]
    exact ih h.2

theorem redirectTarget_noHash (acs : List Char) : ∀ x ∈ redirectTarget acs, (x != '#') = true :=
  List.all_eq_true.mp List.all_takeWhile

theorem redirectFragment_cases (acs : List Char) : redirectFragment acs = [] ∨ ∃ cs, redirectFragment acs = '#' :: cs := by
  unfold redirectFragment
  have := List.head?_dropWhile_not (· != '#') acs
  cases h : acs.dropWhile (· != '#') with
  | nil => exact .inl rfl
  | cons c cs => rw [h] at this; exact .inr ⟨cs, by simpa using this⟩

theorem redirect_noHash {acs : List Char} (h : '#' ∉ acs) : redirectTarget acs = acs ∧ redirectFragment acs = [] := by
  unfold redirectTarget redirectFragment
  induction acs with
  | nil => exact ⟨rfl, rfl⟩
  | cons c cs ih =>
    rw [List.mem_cons, not_or] at h
    simp [Ne.symm h.1, ih h.2]

end Lib.Url
