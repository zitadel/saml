import SamlModel.Lib.Xml
import SamlModel.Lemmas.XmlEscape
import SamlModel.Lemmas.Emit
/-! Frame lemmas for the reference XML tokenizer and the round-trip theorem for printed trees. -/
namespace Lib.Xml
open Lib

theorem run_nil (st : St) : run st [] = (st, []) := rfl

theorem run_cons (st : St) (x : Char) (xs : Str) :
    run st (x :: xs) = ((run (step st x).1 xs).1, (step st x).2 ++ (run (step st x).1 xs).2) :=
  emit_cons step st x xs

theorem run_append (st : St) (a b : Str) :
    run st (a ++ b) = ((run (run st a).1 b).1, (run st a).2 ++ (run (run st a).1 b).2) :=
  emit_append step st a b

theorem run_seq {s0 s1 s2 : St} {a b : Str} {e1 e2 : List Ev} (h1 : run s0 a = (s1, e1)) (h2 : run s1 b = (s2, e2)) :
    run s0 (a ++ b) = (s2, e1 ++ e2) := by
  rw [run_append, h1]; simp [h2]

theorem run_content_escapeChar (c : Char) : run {} (escapeChar c) = ({}, [.chr (sanitizeChar c)]) := by
  refine escapeChar_elim (P := fun c o => run {} o = ({}, [.chr (sanitizeChar c)]))
    (by decide) (by decide) (by decide) (by decide) (by decide) (by decide) (by decide) (by decide) ?_ c
  intro c _ _ h3 h4 _ _ h7 h8
  have : sanitizeChar c ≠ '<' ∧ sanitizeChar c ≠ '&' ∧ sanitizeChar c ≠ '\r' ∧ sanitizeChar c ≠ '\n' := by
    rcases sanitizeChar_cases c with h | h <;> rw [h]
    · exact ⟨h4, h3, h8, h7⟩
    · decide
  rw [run_cons]
  simp [step, this, run_nil]

theorem run_content_escape (s : Str) : run {} (escapeChars s) = ({}, (sanitize s).map .chr) := by
  induction s with
  | nil => simp [escapeChars, sanitize, run_nil]
  | cons c cs ih =>
    rw [escapeChars_cons, run_seq (run_content_escapeChar c) ih]
    simp [sanitize]

theorem normAttr_plain (w : Str) (h : ∀ x ∈ w, x ≠ '\t' ∧ x ≠ '\n' ∧ x ≠ '\r') : normAttr w = w := by
  have key : ∀ (w pre : Str), (∀ x ∈ w, x ≠ '\t' ∧ x ≠ '\n' ∧ x ≠ '\r') →
      w.foldl normAttrStep (pre, false) = (pre ++ w, false) := by
    intro w
    induction w with
    | nil => intro pre _; simp
    | cons x xs ih =>
      intro pre h
      obtain ⟨h1, h2, h3⟩ := h x (by simp)
      simp only [List.foldl_cons]
      have : normAttrStep (pre, false) x = (pre ++ [x], false) := by simp [normAttrStep, h1, h2, h3]
      rw [this, ih (pre ++ [x]) (fun y hy => h y (by simp [hy]))]
      simp
  unfold normAttr
  rw [key w [] h]; simp

theorem decodeAttr_escape (s : Str) : decodeAttr (escapeChars s) = some (sanitize s) := by
  unfold decodeAttr
  rw [normAttr_plain _ (fun x hx => (escapeChars_clean s x hx).2.2.2.2)]
  exact refUnescape_escape s

theorem run_dq_body (n a v w : Str) (hw : ∀ x ∈ w, x ≠ '"' ∧ x ≠ '<') :
    run { mode := .valDq, name := n, aname := a, val := v } w = ({ mode := .valDq, name := n, aname := a, val := v ++ w }, []) :=
  emit_collect step (fun v => { mode := .valDq, name := n, aname := a, val := v }) _
    (by intro pre x ⟨h1, h2⟩; simp [step, h1, h2]) v w hw

theorem run_name_chars (m : Mode) (hm : m = .openName ∨ m = .closeName) (pre w : Str) (hw : ∀ x ∈ w, isNameChar x = true) :
    run { mode := m, name := pre } w = ({ mode := m, name := pre ++ w }, []) :=
  emit_collect step (fun v => { mode := m, name := v }) _
    (by intro pre x hx; rcases hm with rfl | rfl <;> simp [step, hx]) pre w hw

theorem run_aname_chars (n pre w : Str) (hw : ∀ x ∈ w, isNameChar x = true) :
    run { mode := .attrName, name := n, aname := pre } w = ({ mode := .attrName, name := n, aname := pre ++ w }, []) :=
  emit_collect step (fun v => { mode := .attrName, name := n, aname := v }) _ (by intro pre x hx; simp [step, hx]) pre w hw

theorem validName_cons (n : Str) (h : validName n = true) : ∃ c t, n = c :: t ∧ isNameStart c = true ∧ ∀ x ∈ t, isNameChar x = true := by
  cases n with
  | nil => simp [validName] at h
  | cons c t =>
    simp only [validName, Bool.and_eq_true, List.all_eq_true] at h
    exact ⟨c, t, rfl, h⟩

/-- a name start character is none of the punctuation the tag states test first: `d` is not a name start -/
theorem nameStart_ne {c d : Char} (h : isNameStart c = true) (hd : isNameStart d = false := by decide) : c ≠ d :=
  fun e => by rw [e, hd] at h; cases h

theorem nameStart_not_ws {c : Char} (h : isNameStart c = true) : isWs c = false := by
  have := nameStart_ne h (d := ' ')
  have := nameStart_ne h (d := '\t')
  have := nameStart_ne h (d := '\n')
  have := nameStart_ne h (d := '\r')
  simp [isWs, *]

abbrev attrEv (a : Str × Str) : Ev := .attr a.1 (sanitize a.2)

theorem not_nameChar_punct : isNameChar '=' = false ∧ isNameChar ' ' = false ∧ isNameChar '>' = false ∧ isNameChar '"' = false ∧
    isWs '=' = false ∧ isWs '>' = false ∧ isWs '"' = false ∧ isWs ' ' = true := by decide

theorem run_attr (n : Str) (a : Str × Str) (ha : validName a.1 = true) :
    run { mode := .beforeAttr, name := n } (a.1 ++ ['=', '"'] ++ escapeChars a.2 ++ ['"']) =
      ({ mode := .afterVal, name := n }, [attrEv a]) := by
  obtain ⟨c, t, hct, hc, ht⟩ := validName_cons a.1 ha
  have hv : ∀ x ∈ escapeChars a.2, x ≠ '"' ∧ x ≠ '<' := fun x hx => let h := escapeChars_clean a.2 x hx; ⟨h.2.2.1, h.1⟩
  -- the name, `="`, the value, `"`
  rw [hct, List.append_assoc, List.append_assoc, List.cons_append, run_cons, run_append]
  simp [step, nameStart_not_ws hc, nameStart_ne hc (d := '>'), nameStart_ne hc (d := '/'), hc, not_nameChar_punct,
    run_aname_chars n [c] t ht, run_cons, run_append, run_dq_body n (c :: t) [] _ hv, run_nil,
    decodeAttr_escape, attrEv, hct]

theorem run_attrs (n : Str) (attrs : List (Str × Str)) (h : ∀ a ∈ attrs, validName a.1 = true) :
    run { mode := .afterVal, name := n } (attrs.flatMap printAttr) = ({ mode := .afterVal, name := n }, attrs.map attrEv) := by
  induction attrs with
  | nil => simp [run_nil]
  | cons a rest ih =>
    have hl : (a :: rest).flatMap printAttr = ' ' :: ((a.1 ++ ['=', '"'] ++ escapeChars a.2 ++ ['"']) ++ rest.flatMap printAttr) := by
      simp [printAttr]
    have hs : step { mode := .afterVal, name := n } ' ' = ({ mode := .beforeAttr, name := n }, []) := by simp [step, isWs]
    rw [hl, run_cons, hs, run_append, run_attr n a (h a (by simp))]
    simp [ih (fun x hx => h x (by simp [hx]))]

theorem run_open (n ns : Str) (attrs : List (Str × Str)) (hn : validName n = true) (h : ∀ a ∈ attrs, validName a.1 = true) :
    run {} (printOpen n ns attrs) = ({}, [.open n] ++ attrEvents ns attrs ++ [.openEnd]) := by
  obtain ⟨c, t, hct, hc, ht⟩ := validName_cons n hn
  have hall : ∀ a ∈ allAttrs ns attrs, validName a.1 = true := by
    intro a ha
    unfold allAttrs at ha
    by_cases hns : ns = []
    · simp [hns] at ha; exact h a ha
    · simp [hns] at ha
      rcases ha with rfl | ha
      · show validName "xmlns".toList = true; decide
      · exact h a ha
  have e1 : run {} ('<' :: n) = ({ mode := .openName, name := n }, []) := by
    rw [hct, run_cons, run_cons]
    simp [step, nameStart_ne hc (d := '/'), nameStart_ne hc (d := '?'), nameStart_ne hc (d := '!'), hc,
      run_name_chars .openName (Or.inl rfl) [c] t ht]
  unfold printOpen attrEvents
  generalize allAttrs ns attrs = al at hall
  rw [List.append_assoc, List.append_assoc, List.singleton_append, ← List.cons_append, run_append, e1]
  cases al with
  | nil => simp [run_cons, run_nil, step, not_nameChar_punct]
  | cons a rest =>
    -- a space, the first attribute, the others, `>`
    have hl : (a :: rest).flatMap printAttr ++ ['>'] =
        ' ' :: ((a.1 ++ ['=', '"'] ++ escapeChars a.2 ++ ['"']) ++ (rest.flatMap printAttr ++ ['>'])) := by simp [printAttr]
    have hs : step { mode := .openName, name := n } ' ' = ({ mode := .beforeAttr, name := n }, [.open n]) := by
      simp [step, not_nameChar_punct]
    rw [hl, run_cons, hs, run_append, run_attr n a (hall a (by simp)), run_append, run_attrs n rest (fun x hx => hall x (by simp [hx]))]
    simp [run_cons, run_nil, step, not_nameChar_punct, attrEv]

theorem run_close (n : Str) (hn : validName n = true) : run {} (printClose n) = ({}, [.close n]) := by
  obtain ⟨c, t, hct, hc, ht⟩ := validName_cons n hn
  have hall : ∀ x ∈ n, isNameChar x = true := by
    intro x hx
    rcases List.mem_cons.mp (hct ▸ hx) with rfl | hx
    · simp [isNameChar, hc]
    · exact ht x hx
  -- `</`, the name, `>`
  simp [printClose, run_cons, run_append, step, run_name_chars .closeName (Or.inr rfl) [] n hall, not_nameChar_punct, run_nil]

mutual
/-- every element and attribute name is an XML `Name`, and there is no verbatim (`innerxml`) content -/
def namesOk : Node → Bool
  | .elem name _ attrs kids => validName name && attrs.all (fun a => validName a.1) && namesOkF kids
  | .text _ => true
  | .raw _ => false
def namesOkF : Forest → Bool
  | .nil => true
  | .cons n f => namesOk n && namesOkF f
end

mutual
/-- **round trip**: the reference tokenizer reads back from the printed tree exactly the tree's events — same names and
    nesting, every value sanitised and nothing else -/
theorem run_print (n : Node) (h : namesOk n = true) : run {} (print n) = ({}, events n) := by
  match n with
  | .elem name ns attrs kids =>
    simp only [namesOk, Bool.and_eq_true, List.all_eq_true] at h
    obtain ⟨⟨h1, h2⟩, h3⟩ := h
    have e1 := run_open name ns attrs h1 h2
    have e2 := run_printForest kids h3
    have e3 := run_close name h1
    have := run_seq (run_seq e1 e2) e3
    simp only [print, events]
    rw [this]
  | .text s => simp only [print, events]; exact run_content_escape s
  | .raw s => simp [namesOk] at h
theorem run_printForest (f : Forest) (h : namesOkF f = true) : run {} (printForest f) = ({}, eventsForest f) := by
  match f with
  | .nil => simp [printForest, eventsForest, run_nil]
  | .cons n f =>
    simp only [namesOkF, Bool.and_eq_true] at h
    have := run_seq (run_print n h.1) (run_printForest f h.2)
    simp only [printForest, eventsForest]
    exact this
end

theorem run_header : run {} header = ({}, [.pi, .chr '\n']) := by decide +kernel

theorem tokens_doc (n : Node) (h : namesOk n = true) : tokens (header ++ print n) = [.pi, .chr '\n'] ++ events n := by
  unfold tokens
  rw [run_seq run_header (run_print n h)]
  simp

def wfRun (w : WfSt) (evs : List Ev) : WfSt := evs.foldl wfStep w

theorem wfRun_append (w : WfSt) (a b : List Ev) : wfRun w (a ++ b) = wfRun (wfRun w a) b := by simp [wfRun]

theorem wfRun_attrs (w : WfSt) (hs : w.stack ≠ []) (l : List (Str × Str)) : wfRun w (l.map attrEv) = w := by
  induction l with
  | nil => rfl
  | cons a t ih => simp only [List.map_cons, wfRun, List.foldl_cons] at ih ⊢; simp only [wfStep, hs, if_false]; exact ih

theorem wfRun_chrs (w : WfSt) (hs : w.stack ≠ []) (l : Str) : wfRun w (l.map .chr) = w := by
  induction l with
  | nil => rfl
  | cons a t ih => simp only [List.map_cons, wfRun, List.foldl_cons] at ih ⊢; simp only [wfStep, hs, false_and, if_false]; exact ih

theorem wfRun_openEnd (w : WfSt) : wfRun w [.openEnd] = w := rfl

mutual
/-- below an open element, the events of a subtree leave the checker exactly where it was -/
theorem wf_node (n : Node) (w : WfSt) (hs : w.stack ≠ []) (h : namesOk n = true) : wfRun w (events n) = w := by
  match n with
  | .elem name ns attrs kids =>
    simp only [namesOk, Bool.and_eq_true] at h
    simp only [events, attrEvents, wfRun_append]
    have h1 : wfRun w [.open name] = { w with stack := name :: w.stack } := by simp [wfRun, wfStep, hs]
    rw [h1, wfRun_attrs _ (by simp)]
    rw [wfRun_openEnd, wf_forest kids _ (by simp) h.2]
    simp [wfRun, wfStep]
  | .text s => simp only [events]; exact wfRun_chrs w hs _
  | .raw s => simp [namesOk] at h
theorem wf_forest (f : Forest) (w : WfSt) (hs : w.stack ≠ []) (h : namesOkF f = true) : wfRun w (eventsForest f) = w := by
  match f with
  | .nil => rfl
  | .cons n f =>
    simp only [namesOkF, Bool.and_eq_true] at h
    simp only [eventsForest, wfRun_append]
    rw [wf_node n w hs h.1, wf_forest f w hs h.2]
end

/-- **single well-formed document**: a marshalled element (valid names, no verbatim content) tokenizes to a stream in
    which every end tag matches its start tag, there is exactly one root and nothing but white space around it -/
theorem wellFormed_doc (name ns : Str) (attrs : List (Str × Str)) (kids : Forest) (h : namesOk (.elem name ns attrs kids) = true) :
    wellFormed (tokens (header ++ print (.elem name ns attrs kids))) = true := by
  rw [tokens_doc _ h]
  simp only [namesOk, Bool.and_eq_true] at h
  unfold wellFormed
  show (let w := wfRun {} ([.pi, .chr '\n'] ++ events (.elem name ns attrs kids))
    (w.ok && decide (w.stack = [])) && decide (w.roots = 1)) = true
  simp only [events, attrEvents, wfRun_append]
  have h0 : wfRun {} [.pi, .chr '\n'] = {} := by decide
  have h1 : wfRun {} [.open name] = { stack := [name], roots := 1 } := by simp [wfRun, wfStep]
  rw [h0, h1, wfRun_attrs _ (by simp)]
  rw [wfRun_openEnd, wf_forest kids _ (by simp) h.2]
  simp [wfRun, wfStep]

/-! ### data cannot change the structure -/

mutual
/-- the same tree with every value emptied -/
def blank : Node → Node
  | .elem name ns attrs kids => .elem name ns (attrs.map fun a => (a.1, [])) (blankF kids)
  | .text _ => .text []
  | .raw s => .raw s
def blankF : Forest → Forest
  | .nil => .nil
  | .cons n f => .cons (blank n) (blankF f)
end

theorem skeleton_append (a b : List Ev) : skeleton (a ++ b) = skeleton a ++ skeleton b := by simp [skeleton]

theorem skeleton_chrs (l : Str) : skeleton (l.map .chr) = [] := by
  simp [skeleton, List.filterMap_map, Function.comp_def]

theorem skeleton_attrs (l : List (Str × Str)) : skeleton (l.map attrEv) = l.map fun a => Ev.attr a.1 [] := by
  simp [skeleton, List.filterMap_map, Function.comp_def]

mutual
theorem skeleton_blank (n : Node) : skeleton (events n) = skeleton (events (blank n)) := by
  match n with
  | .elem name ns attrs kids =>
    simp only [events, blank, attrEvents, skeleton_append, skeleton_attrs]
    rw [skeleton_blankF kids]
    by_cases hns : ns = [] <;> simp [allAttrs, hns, Function.comp_def]
  | .text s => simp only [events, blank]; rw [skeleton_chrs, skeleton_chrs]
  | .raw s => rfl
theorem skeleton_blankF (f : Forest) : skeleton (eventsForest f) = skeleton (eventsForest (blankF f)) := by
  match f with
  | .nil => rfl
  | .cons n f => simp only [eventsForest, blankF, skeleton_append]; rw [skeleton_blank n, skeleton_blankF f]
end

end Lib.Xml
