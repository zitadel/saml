import SamlModel.Model.Interleave
/-!
  Lemmas.Interleave — a request's own run simulates its part of any interleaved run.
-/
namespace Interleave
variable {κ ν ρ : Type} [DecidableEq κ]

/-- the interleaved state `S` looks, to request `i`, like its private state `A` -/
def Sim (e : Env κ) (i : Nat) (S A : State κ ν ρ) : Prop :=
  S.procs i = A.procs i ∧ ∀ k, ¬ foreign e i k → S.store k = A.store k

set_option linter.unusedSectionVars false in
theorem setProc_same (procs : Nat → PState κ ν ρ) (i : Nat) (p : PState κ ν ρ) : setProc procs i p i = p := by
  simp [setProc]

set_option linter.unusedSectionVars false in
theorem setProc_other (procs : Nat → PState κ ν ρ) (i j : Nat) (p : PState κ ν ρ) (h : i ≠ j) : setProc procs j p i = procs i := by
  simp [setProc, h]

theorem sim_step_other {e : Env κ} {i j : Nat} {S A : State κ ν ρ} (hij : j ≠ i) (h : Sim e i S A) :
    Sim e i (step e S j) A := by
  obtain ⟨hp, hs⟩ := h
  unfold step
  cases hprog : (S.procs j).prog with
  | done r => simp only [hprog]; exact ⟨hp, hs⟩
  | read k cont =>
    simp only [hprog]
    exact ⟨(setProc_other _ _ _ _ (Ne.symm hij)).trans hp, hs⟩
  | create v cont =>
    simp only [hprog]
    refine ⟨(setProc_other _ _ _ _ (Ne.symm hij)).trans hp, ?_⟩
    intro k hk
    have : k ≠ e.alloc j (S.procs j).created := by
      intro heq
      exact hk ⟨j, _, hij, heq⟩
    simp only [this, if_false]
    exact hs k hk
  | fresh cont =>
    simp only [hprog]
    exact ⟨(setProc_other _ _ _ _ (Ne.symm hij)).trans hp, hs⟩

theorem sim_step_own {e : Env κ} {i : Nat} {S A : State κ ν ρ}
    (h : Sim e i S A) (hr : readsOwn e A i) : Sim e i (step e S i) (step e A i) := by
  obtain ⟨hp, hs⟩ := h
  unfold step
  rw [hp]
  cases hprog : (A.procs i).prog with
  | done r => simp only [hprog]; exact ⟨hp, hs⟩
  | read k cont =>
    simp only [hprog]
    have hk : ¬ foreign e i k := hr k cont hprog
    refine ⟨?_, hs⟩
    simp [setProc, hs k hk]
  | create v cont =>
    simp only [hprog]
    refine ⟨by simp [setProc], ?_⟩
    intro k hk
    by_cases heq : k = e.alloc i (A.procs i).created
    · simp [heq]
    · simp only [heq, if_false]; exact hs k hk
  | fresh cont =>
    simp only [hprog]
    exact ⟨by simp [setProc], hs⟩

theorem alone_step (e : Env κ) (A : State κ ν ρ) (i n : Nat) : alone e (step e A i) i n = alone e A i (n + 1) := by
  induction n with
  | zero => rfl
  | succ n ih => simp only [alone]; rw [ih]; rfl

/-- **simulation**: after any schedule, request `i` is where it would be had it run alone for as many steps as the
    schedule gave it -/
theorem sim_run {e : Env κ} {i : Nat} (sched : List Nat) : ∀ {S A : State κ ν ρ}, Sim e i S A → (∀ n, readsOwn e (alone e A i n) i) →
      Sim e i (run e S sched) (alone e A i (sched.count i)) := by
  induction sched with
  | nil => intro S A h _; simpa [run, alone] using h
  | cons j rest ih =>
    intro S A h hr
    by_cases hj : j = i
    · subst hj
      have h1 := sim_step_own h (hr 0)
      have := ih h1 (fun n => by rw [alone_step]; exact hr (n + 1))
      rw [alone_step] at this
      simpa [run] using this
    · have h1 := sim_step_other hj h
      have := ih h1 hr
      have hc : (j :: rest).count i = rest.count i := by simp [hj]
      rw [hc]
      simpa [run] using this

omit [DecidableEq κ] in
theorem sim_refl (e : Env κ) (i : Nat) (S : State κ ν ρ) : Sim e i S S := ⟨rfl, fun _ _ => rfl⟩

theorem run_replicate (e : Env κ) (S : State κ ν ρ) (i n : Nat) : run e S (List.replicate n i) = alone e S i n := by
  induction n generalizing S with
  | zero => rfl
  | succ n ih =>
    simp only [List.replicate_succ, run, List.foldl_cons]
    have := ih (step e S i)
    simp only [run] at this
    rw [this, alone_step]

theorem step_done {e : Env κ} {S : State κ ν ρ} {i : Nat} {r : ρ} (h : (S.procs i).prog = .done r) : step e S i = S := by
  unfold step; simp [h]

theorem alone_done {e : Env κ} {S : State κ ν ρ} {i n m : Nat} {r : ρ} (h : replyOf (alone e S i n) i = some r) (hm : n ≤ m) :
    replyOf (alone e S i m) i = some r := by
  induction m with
  | zero =>
    have : n = 0 := by omega
    subst this
    exact h
  | succ m ih =>
    by_cases hn : n = m + 1
    · subst hn; exact h
    · have h1 := ih (by omega)
      simp only [alone]
      have hd : ((alone e S i m).procs i).prog = .done r := by
        unfold replyOf at h1
        split at h1
        next r' hr' => cases h1; exact hr'
        next => cases h1
      rw [step_done hd]; exact h1

/-- the identifiers a request has drawn are the first `drawn` values of its own stream -/
def IdsInv (e : Env κ) (S : State κ ν ρ) : Prop :=
  ∀ i, (S.procs i).ids = (List.range (S.procs i).drawn).map (e.ids i)

theorem idsInv_step {e : Env κ} {S : State κ ν ρ} (j : Nat) (h : IdsInv e S) : IdsInv e (step e S j) := by
  intro i
  unfold step
  cases hprog : (S.procs j).prog <;> simp only [hprog]
  case done => exact h i
  -- only request `j` changes, and only `fresh` touches what the invariant speaks of
  all_goals
    by_cases hij : i = j
    · subst hij; simp [setProc, h i, List.range_succ]
    · simp [setProc, hij, h i]

theorem idsInv_run {e : Env κ} (sched : List Nat) : ∀ {S : State κ ν ρ}, IdsInv e S → IdsInv e (run e S sched) := by
  induction sched with
  | nil => intro S h; exact h
  | cons j rest ih => intro S h; exact ih (idsInv_step j h)

/-- a request that, run alone from this storage, only reads records outside the other requests' name spaces -/
inductive SafeProg (e : Env κ) (i : Nat) : (κ → Option ν) → Nat → Nat → Prog κ ν ρ → Prop where
  | done {st c d r} : SafeProg e i st c d (.done r)
  | read {st c d k cont} : ¬ foreign e i k → SafeProg e i st c d (cont (st k)) → SafeProg e i st c d (.read k cont)
  | create {st c d v cont} :
      SafeProg e i (fun k' => if k' = e.alloc i c then some v else st k') (c + 1) d (cont (e.alloc i c)) →
      SafeProg e i st c d (.create v cont)
  | fresh {st c d cont} : SafeProg e i st c (d + 1) (cont (e.ids i d)) → SafeProg e i st c d (.fresh cont)

def SafeState (e : Env κ) (i : Nat) (S : State κ ν ρ) : Prop :=
  SafeProg e i S.store (S.procs i).created (S.procs i).drawn (S.procs i).prog

theorem safeState_step {e : Env κ} {i : Nat} {S : State κ ν ρ} (h : SafeState e i S) : SafeState e i (step e S i) := by
  unfold SafeState at h ⊢
  unfold step
  cases hprog : (S.procs i).prog <;> simp only [hprog] <;> rw [hprog] at h
  · exact h
  all_goals cases h; simpa [setProc]

theorem safeState_alone {e : Env κ} {i : Nat} {S : State κ ν ρ} (h : SafeState e i S) (n : Nat) : SafeState e i (alone e S i n) := by
  induction n with
  | zero => exact h
  | succ n ih => exact safeState_step ih

theorem readsOwn_of_safe {e : Env κ} {i : Nat} {S : State κ ν ρ} (h : SafeState e i S) : readsOwn e S i := by
  intro k cont hk
  unfold SafeState at h
  rw [hk] at h
  cases h with
  | read hnf _ => exact hnf

end Interleave
