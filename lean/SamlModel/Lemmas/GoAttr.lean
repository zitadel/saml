import Lean.Meta.Tactic.Simp.RegisterCommand
/-- Rewrite rules that run translated Go code forwards: `Ctl.seq` / `toRes` / `toClo` over `ret`, `next`, `panic` and
    `if`, nil guards on pointers that are there, `isPanic` / `get` of a call that returned.  Meant for
    `simp only [F, F.body, gosem]` at the head of the one lemma that characterises a generated function `F`, and for the
    step lemmas of a chain walk, which run one `Go.Step` (Lemmas/ChainWalk.lean tags what they unfold). -/
register_simp_attr gosem
