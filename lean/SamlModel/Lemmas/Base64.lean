import SamlModel.Lib.Base64
/-! Round-trip of the base64 model: `b64decode (b64encode bs) = some bs` for every byte string. -/
namespace Lib

/-- what has to be known of the 64 alphabet characters, in one sweep -/
theorem b64Char_table : ∀ n : Fin 64, b64Val (b64Char n.val) = some n.val ∧
    b64Char n.val ≠ '=' ∧ b64Char n.val ≠ '\r' ∧ b64Char n.val ≠ '\n' ∧ (b64Char n.val).toNat < 128 := by decide

/-- beyond 63 `b64Char` repeats its last value: what holds of the alphabet holds of `b64Char n` for every `n` -/
theorem b64Char_alphabet (n : Nat) : ∃ k : Fin 64, b64Char n = b64Char k.val := by
  by_cases h : n < 64
  · exact ⟨⟨n, h⟩, rfl⟩
  · refine ⟨⟨63, by omega⟩, ?_⟩
    unfold b64Char
    rw [if_neg (by omega), if_neg (by omega), if_neg (by omega), if_neg (by omega)]
    rfl

theorem b64EncodeChars_forall {P : Char → Prop} (pad : P '=') (alpha : ∀ n, P (b64Char n)) (xs : List Nat) :
    ∀ c ∈ b64EncodeChars xs, P c := by
  induction xs using b64EncodeChars.induct with
  | case1 a b c rest ih =>
    simp only [b64EncodeChars, List.forall_mem_cons]
    exact ⟨alpha _, alpha _, alpha _, alpha _, ih⟩
  | case2 a b =>
    simp only [b64EncodeChars, List.forall_mem_cons]
    exact ⟨alpha _, alpha _, alpha _, pad, nofun⟩
  | case3 a =>
    simp only [b64EncodeChars, List.forall_mem_cons]
    exact ⟨alpha _, alpha _, pad, pad, nofun⟩
  | case4 => nofun

theorem b64Char_ascii (n : Nat) : (b64Char n).toNat < 128 := by
  obtain ⟨k, hk⟩ := b64Char_alphabet n
  rw [hk]; exact (b64Char_table k).2.2.2.2

theorem b64EncodeChars_ascii (xs : List Nat) : ∀ c ∈ b64EncodeChars xs, c.toNat < 128 :=
  b64EncodeChars_forall (by decide) b64Char_ascii xs

theorem b64Encode_no_crlf (xs : List Nat) :
    (b64EncodeChars xs).filter (fun c => c != '\r' && c != '\n') = b64EncodeChars xs := by
  apply List.filter_eq_self.mpr
  refine b64EncodeChars_forall (P := fun c => (c != '\r' && c != '\n') = true) (by decide) (fun n => ?_) xs
  obtain ⟨k, hk⟩ := b64Char_alphabet n
  have := b64Char_table k
  rw [hk]; simp [this.2.2.1, this.2.2.2.1]

theorem b64Val_b64Char (n : Nat) (h : n < 64) : b64Val (b64Char n) = some n := (b64Char_table ⟨n, h⟩).1

theorem b64Char_ne_pad (n : Nat) (h : n < 64) : b64Char n ≠ '=' := (b64Char_table ⟨n, h⟩).2.1

/-- the regrouping of three bytes into four sextets, and back -/
theorem quantum (a b c : Nat) (ha : a < 256) (hb : b < 256) (hc : c < 256) :
    (a / 4 < 64 ∧ a % 4 * 16 + b / 16 < 64 ∧ b % 16 * 4 + c / 64 < 64 ∧ c % 64 < 64) ∧
    a / 4 * 4 + (a % 4 * 16 + b / 16) / 16 = a ∧ (a % 4 * 16 + b / 16) % 16 * 16 + (b % 16 * 4 + c / 64) / 4 = b ∧
      (b % 16 * 4 + c / 64) % 4 * 64 + c % 64 = c := by omega

/-- two bytes and one byte are encoded like three bytes with zeros -/
theorem b64Decode_encode (xs : List Nat) (h : ∀ x ∈ xs, x < 256) : b64DecodeChars (b64EncodeChars xs) = some xs := by
  induction xs using b64EncodeChars.induct with
  | case1 a b c rest ih =>
    obtain ⟨⟨l0, l1, l2, l3⟩, q0, q1, q2⟩ := quantum a b c (h a (by simp)) (h b (by simp)) (h c (by simp))
    have hr : ∀ x ∈ rest, x < 256 := fun x hx => h x (by simp [hx])
    simp only [b64EncodeChars, b64DecodeChars, b64Char_ne_pad _ l3, if_false, b64Val_b64Char _ l0, b64Val_b64Char _ l1,
      b64Val_b64Char _ l2, b64Val_b64Char _ l3, ih hr, bind, Option.bind, pure, q0, q1, q2]
  | case2 a b =>
    obtain ⟨⟨l0, l1, l2, _⟩, q0, q1, _⟩ := quantum a b 0 (h a (by simp)) (h b (by simp)) (by omega)
    simp only [Nat.zero_div, Nat.add_zero] at l2 q1
    simp only [b64EncodeChars, b64DecodeChars, if_true, b64Char_ne_pad _ l2, if_false, b64Val_b64Char _ l0, b64Val_b64Char _ l1,
      b64Val_b64Char _ l2, bind, Option.bind, pure, ne_eq, not_true_eq_false, q0, q1]
  | case3 a =>
    obtain ⟨⟨l0, l1, _, _⟩, q0, _, _⟩ := quantum a 0 0 (h a (by simp)) (by omega) (by omega)
    simp only [Nat.zero_div, Nat.add_zero] at l1 q0
    simp only [b64EncodeChars, b64DecodeChars, if_true, b64Val_b64Char _ l0, b64Val_b64Char _ l1, bind, Option.bind, pure, ne_eq,
      not_true_eq_false, if_false, q0]
  | case4 => simp [b64EncodeChars, b64DecodeChars]

/-- **Base64 round trip**: for every byte string, `DecodeString (EncodeToString bs) = bs` -/
theorem b64decode_encode (bs : Bytes) : b64decode (b64encode bs) = some bs := by
  unfold b64decode b64encode
  have hlt : ∀ x ∈ bs.map (·.toNat), x < 256 := by
    intro x hx
    obtain ⟨b, _, rfl⟩ := List.mem_map.mp hx
    exact b.toNat_lt
  simp only [String.toList_ofList]
  rw [b64Encode_no_crlf, b64Decode_encode _ hlt]
  simp [List.map_map, Function.comp_def]

theorem b64encode_ne_empty (sig : List UInt8) (h : sig ≠ []) : b64encode sig ≠ "" := by
  unfold b64encode
  intro he
  have : b64EncodeChars (sig.map (·.toNat)) = [] := by
    have := congrArg String.toList he
    simpa using this
  rcases sig with _ | ⟨a, _ | ⟨b, _ | ⟨c, t⟩⟩⟩
  · exact h rfl
  all_goals simp [b64EncodeChars] at this

end Lib
