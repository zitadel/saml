import SamlModel.Model.Callback
import SamlModel.Model.Logout
import SamlModel.Generated.Funcs
import SamlModel.Lemmas.GoSem
/-!
  Lemmas.Builders — the message builders of response.go / logout_response.go / identityprovider.go are *translated*
  (go2lean regenerates `Gen.getIssuer`, `Gen.makeResponse`, `Gen.makeAssertion`, `Gen.makeLogoutResponse`,
  `Gen.endpointConfigToEndpoints` on every run).  The handler models use small record types (`Callback.Msg`,
  `Callback.Assertion`, `Logout.Msg`, `Metadata.Endpoints`); the lemmas here say which record each generated builder
  returns, for all arguments (`responseRec`, `assertionRec`, `logoutResponseRec`), and that the models' records are
  its projections (`msgOf`, `assertionOf`, `logoutMsgOf`), so the property theorems about the models are theorems
  about the generated code.
-/
namespace Builders
open Go Gen Consts

/-- the hand model's view of a generated `samlp.ResponseType` -/
def msgOf (r : samlp_ResponseType) (a : Option Callback.Assertion) : Callback.Msg :=
  { id := r.Id, inResponseTo := r.InResponseTo, destination := r.Destination, issueInstant := r.IssueInstant,
    status := r.Status.StatusCode.Value, statusMessage := r.Status.StatusMessage,
    issuer := (r.Issuer.map (·.Text)).getD "", assertion := a }

/-- the hand model's view of a generated `saml.AssertionType` (defined when it has the one-subject-confirmation,
    one-audience-restriction, one-attribute-statement, one-authn-statement shape `makeAssertion` builds) -/
def assertionOf (a : saml_AssertionType) : Option Callback.Assertion :=
  match a.Subject, a.Conditions, a.AttributeStatement, a.AuthnStatement with
  | some subj, some cond, [as], [au] =>
    match subj.SubjectConfirmation, cond.AudienceRestriction with
    | [sc], [ar] =>
      match sc.SubjectConfirmationData with
      | some scd =>
        some { id := a.Id, issueInstant := a.IssueInstant, issuer := a.Issuer.Text, nameID := subj.NameID,
               scInResponseTo := scd.InResponseTo, scNotOnOrAfter := scd.NotOnOrAfter, scRecipient := scd.Recipient,
               notBefore := cond.NotBefore, notOnOrAfter := cond.NotOnOrAfter, audiences := ar.Audience,
               attributes := as.Attribute, authnInstant := au.AuthnInstant, sessionIndex := au.SessionIndex }
      | none => none
    | _, _ => none
  | _, _, _, _ => none

theorem getIssuer_eq (o : Ora) (issuer : String) :
    getIssuer o issuer = .ok (some { Format := "urn:oasis:names:tc:SAML:2.0:nameid-format:entity", Text := issuer }) := by
  simp [getIssuer, getIssuer.body]

/-- the `samlp.ResponseType` `makeResponse` builds -/
def responseRec (id reqID acs ii status msg issuer : String) : samlp_ResponseType where
  Version := "2.0"
  Id := id
  IssueInstant := ii
  InResponseTo := reqID
  Destination := acs
  Status := { StatusCode := { Value := status }, StatusMessage := msg }
  Issuer := some { Format := "urn:oasis:names:tc:SAML:2.0:nameid-format:entity", Text := issuer }

theorem makeResponse_eq (o : Ora) (id reqID acs ii status msg issuer : String) :
    makeResponse o id reqID acs ii status msg issuer = .ok (some (responseRec id reqID acs ii status msg issuer)) := by
  simp only [makeResponse, makeResponse.body, gosem, getIssuer_eq, responseRec]
  -- `Destination` is set only when `acs` is not empty, and is empty otherwise: `acs` in both cases
  by_cases h : acs = ""
  · subst h; rfl
  · rw [show (acs != "") = true by simpa using h]; rfl

theorem msgOf_responseRec (id reqID acs ii status msg issuer : String) :
    msgOf (responseRec id reqID acs ii status msg issuer) none = Callback.mkResponse id reqID acs ii status msg issuer := rfl

theorem assertionOf_responseRec (id reqID acs ii status msg issuer : String) :
    assertionOf (responseRec id reqID acs ii status msg issuer).Assertion = none := rfl

/-- the `saml.AssertionType` `makeAssertion` builds -/
def assertionRec (id reqID acs sendIP ii untl issuer : String) (nameID : Option saml_NameIDType)
    (attrs : List (Option saml_AttributeType)) (aud : String) (authN : Bool) : saml_AssertionType where
  Version := "2.0"
  Id := id
  IssueInstant := ii
  Issuer := { Format := "urn:oasis:names:tc:SAML:2.0:nameid-format:entity", Text := issuer }
  Subject := some {
    NameID := nameID
    SubjectConfirmation := [{
      Method := "urn:oasis:names:tc:SAML:2.0:cm:bearer"
      SubjectConfirmationData := some { InResponseTo := reqID, NotOnOrAfter := untl, Recipient := acs, Address := sendIP } }] }
  Conditions := some { NotBefore := ii, NotOnOrAfter := untl, AudienceRestriction := [{ Audience := [aud] }] }
  AttributeStatement := [{ Attribute := attrs }]
  AuthnStatement :=
    if authN then [{ AuthnInstant := ii, SessionIndex := id,
                     AuthnContext := { AuthnContextClassRef := "urn:oasis:names:tc:SAML:2.0:ac:classes:PasswordProtectedTransport" } }]
    else []

/-- `makeAssertion` (generated from response.go), for every consumer URL, sender address and both values of `authN`;
    the identifier is the one `NewID()` returned at its call site -/
theorem makeAssertion_eq (o : Ora) (reqID acs sendIP ii untl issuer : String) (nameID : Option saml_NameIDType)
    (attrs : List (Option saml_AttributeType)) (aud : String) (authN : Bool) :
    makeAssertion o reqID acs sendIP ii untl issuer nameID attrs aud authN =
      .ok (some (assertionRec (o.newID "makeAssertion" 0) reqID acs sendIP ii untl issuer nameID attrs aud authN)) := by
  unfold makeAssertion makeAssertion.body assertionRec
  -- `Recipient` and `Address` are set only when not empty, and are empty otherwise
  by_cases h1 : acs = "" <;> by_cases h2 : sendIP = "" <;> cases authN <;>
    simp only [h1, h2, getIssuer_eq, gosem, bne_iff_ne, ne_eq, not_true_eq_false, not_false_eq_true, decide_false,
      List.length_cons, List.length_nil, Nat.reduceAdd, Nat.reduceLeDiff, List.getD_cons_zero, List.set_cons_zero] <;> rfl

/-- `makeFailedResponse` (generated): `makeResponse` with the instant `time.Now().Format(layout)` and the identifier of
    its `NewID()` call site -/
theorem makeFailedResponse_eq (o : Ora) (resp : provider_Response) (reason message fmt : String) :
    Response_makeFailedResponse o (some resp) reason message fmt =
      .ok (some (responseRec (o.newID "Response_makeFailedResponse" 0) resp.RequestID resp.AcsUrl (o.m_Format o.now fmt) reason message resp.Issuer)) := by
  simp only [Response_makeFailedResponse, Response_makeFailedResponse.body, gosem, makeResponse_eq]

/-- the hand model's view of a generated `samlp.LogoutResponseType` -/
def logoutMsgOf (r : samlp_LogoutResponseType) : Logout.Msg :=
  { id := r.Id, inResponseTo := r.InResponseTo, destination := r.Destination, issueInstant := r.IssueInstant,
    status := r.Status.StatusCode.Value, issuer := (r.Issuer.map (·.Text)).getD "" }

/-- the `samlp.LogoutResponseType` `makeLogoutResponse` builds -/
def logoutResponseRec (id reqID url ii status msg : String) (issuer : Option saml_NameIDType) : samlp_LogoutResponseType where
  Id := id
  InResponseTo := reqID
  Version := "2.0"
  IssueInstant := ii
  Destination := url
  Issuer := issuer
  Status := { StatusCode := { Value := status }, StatusMessage := msg }

theorem makeLogoutResponse_eq (o : Ora) (reqID url ii status msg : String) (issuer : Option saml_NameIDType) :
    makeLogoutResponse o reqID url ii status msg issuer =
      .ok (some (logoutResponseRec (o.newID "makeLogoutResponse" 0) reqID url ii status msg issuer)) := rfl

/-- the two LogoutResponse builders of logout_response.go: `makeLogoutResponse` on the fields of the `LogoutResponse`,
    with the instant `time.Now().Format(layout)` -/
theorem makeFailedLogoutResponse_eq (o : Ora) (r : provider_LogoutResponse) (reason msg fmt : String) :
    LogoutResponse_makeFailedLogoutResponse o (some r) reason msg fmt =
      .ok (some (logoutResponseRec (o.newID "makeLogoutResponse" 0) r.RequestID r.LogoutURL (o.m_Format o.now fmt) reason msg
        (some { Format := "urn:oasis:names:tc:SAML:2.0:nameid-format:entity", Text := r.Issuer }))) := by
  simp only [LogoutResponse_makeFailedLogoutResponse, LogoutResponse_makeFailedLogoutResponse.body, gosem, getIssuer_eq,
    makeLogoutResponse_eq]

theorem makeSuccessfulLogoutResponse_eq (o : Ora) (r : provider_LogoutResponse) (fmt : String) :
    LogoutResponse_makeSuccessfulLogoutResponse o (some r) fmt =
      .ok (some (logoutResponseRec (o.newID "makeLogoutResponse" 0) r.RequestID r.LogoutURL (o.m_Format o.now fmt) statusSuccess ""
        (some { Format := "urn:oasis:names:tc:SAML:2.0:nameid-format:entity", Text := r.Issuer }))) := by
  simp only [LogoutResponse_makeSuccessfulLogoutResponse, LogoutResponse_makeSuccessfulLogoutResponse.body, gosem, getIssuer_eq,
    makeLogoutResponse_eq, statusSuccess]

theorem logoutMsgOf_rec (id reqID url ii status msg issuer : String) :
    logoutMsgOf (logoutResponseRec id reqID url ii status msg (some { Format := "urn:oasis:names:tc:SAML:2.0:nameid-format:entity", Text := issuer })) =
      { id := id, inResponseTo := reqID, destination := url, issueInstant := ii, status := status, issuer := issuer } := rfl

theorem relative_eq (o : Ora) (p : String) : relativeEndpoint o p = .ok ("/" ++ Lib.trimPrefix p "/") := by
  simp [relativeEndpoint, relativeEndpoint.body]

theorem absolute_eq (o : Ora) (host p : String) :
    absoluteEndpoint o host p = .ok (Lib.trimSuffix host "/" ++ ("/" ++ Lib.trimPrefix p "/")) := by
  simp [absoluteEndpoint, absoluteEndpoint.body, relative_eq]

theorem endpointRelative_eq (o : Ora) (e : provider_Endpoint) : Endpoint_Relative o e = .ok ("/" ++ Lib.trimPrefix e.path "/") := by
  simp [Endpoint_Relative, Endpoint_Relative.body, relative_eq]

theorem endpointAbsolute_eq (o : Ora) (e : provider_Endpoint) (host : String) :
    Endpoint_Absolute o e host =
      .ok (if e.url ≠ "" then e.url else Lib.trimSuffix host "/" ++ ("/" ++ Lib.trimPrefix e.path "/")) := by
  unfold Endpoint_Absolute Endpoint_Absolute.body
  by_cases h : e.url = "" <;> simp [h, absolute_eq]

theorem newEndpoint_eq (o : Ora) (p : String) : NewEndpoint o p = .ok { path := p } := rfl

/-- **`endpointConfigToEndpoints` (generated)**: never panics; every endpoint is the configured one, else the default
    path the model's `Metadata.Endpoints` carries -/
theorem endpointConfigToEndpoints_eq (o : Ora) (conf : Option provider_EndpointConfig) :
    endpointConfigToEndpoints o conf = .ok (some {
      certificateEndpoint := ((conf.bind (·.Certificate)).getD { path := "certificate" }),
      callbackEndpoint := ((conf.bind (·.Callback)).getD { path := "login" }),
      singleSignOnEndpoint := ((conf.bind (·.SingleSignOn)).getD { path := "SSO" }),
      singleLogoutEndpoint := ((conf.bind (·.SingleLogOut)).getD { path := "SLO" }),
      attributeEndpoint := ((conf.bind (·.Attribute)).getD { path := "attribute" }) }) := by
  cases conf with
  | none => simp [endpointConfigToEndpoints, endpointConfigToEndpoints.body, newEndpoint_eq]
  | some c =>
    -- each of the five blocks overrides one field when its option is set: the `if` goes into the frame, then into the
    -- field (`cond_deref`); what is left is a choice between records that agree, settled by the five cases
    simp only [endpointConfigToEndpoints, endpointConfigToEndpoints.body, gosem, newEndpoint_eq, cond_not_cond, cond_next,
      Bool.apply_cond endpointConfigToEndpoints.Frame.conf, Bool.apply_cond endpointConfigToEndpoints.Frame.endpoints, Bool.cond_self,
      Bool.apply_cond Option.isNone, Bool.apply_cond (deref (α := provider_Endpoints)), cond_deref,
      Bool.apply_cond provider_Endpoints.certificateEndpoint, Bool.apply_cond provider_Endpoints.callbackEndpoint,
      Bool.apply_cond provider_Endpoints.singleSignOnEndpoint, Bool.apply_cond provider_Endpoints.singleLogoutEndpoint,
      Bool.apply_cond provider_Endpoints.attributeEndpoint]
    obtain ⟨x1, x2, x3, x4, x5⟩ := c
    cases x1 <;> cases x2 <;> cases x3 <;> cases x4 <;> cases x5 <;> rfl

end Builders
