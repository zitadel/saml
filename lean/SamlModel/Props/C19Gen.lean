import SamlModel.Props.C19
import SamlModel.Lemmas.GoSem
/-!
  C19 on the regenerated issuer factories (context.go): the two closure levels of `issuerFromForwardedOrHost` and of
  `StaticIssuer` are translated separately on every run (`…_validate`: the checks made when the provider is
  constructed; `…_derive`: what is computed per request), `hostFromForwarded` as a whole.  What the request
  contributes is visible as oracles: `o.headerValues name` (= `r.Header[name]`), `o.reqHost` (= `r.Host`);
  `httpforwarded.ParseParameter` is the library oracle `o.forwardedParse`.
-/
namespace C19
open Go Gen

/-- the first host of the configured forwarding headers: headers in configuration order, a header whose values
    do not parse or carry no host parameter is skipped -/
def firstHost (o : Ora) : List String → Option String
  | [] => none
  | h :: hs =>
    match o.forwardedParse "host" (o.headerValues h) with
    | (x :: _, none) => some x
    | _ => firstHost o hs

/-- what the loop of `hostFromForwarded` returns at header `h`, if it returns there -/
def hostAt (o : Ora) (h : String) : Option (String × Bool) :=
  match o.forwardedParse "host" (o.headerValues h) with
  | (x :: _, none) => some (x, true)
  | _ => none

theorem findSome_hostAt (o : Ora) (l : List String) : l.findSome? (hostAt o) = (firstHost o l).map (·, true) := by
  induction l with
  | nil => rfl
  | cons h hs ih =>
    rcases hp : o.forwardedParse "host" (o.headerValues h) with ⟨hosts, err⟩
    cases err <;> cases hosts <;> simp [firstHost, hostAt, hp, ih]

/-- `hostFromForwarded` returns the first host of the configured headers, or ("", false) -/
theorem hostFromForwarded_spec (o : Ora) (headers : List String) :
    hostFromForwarded o headers = .ok (match firstHost o headers with | some x => (x, true) | none => ("", false)) := by
  simp only [hostFromForwarded, hostFromForwarded.body]
  rw [goFor_ret_first (g := hostAt o), findSome_hostAt]
  · cases firstHost o headers <;> rfl
  · -- a header whose values do not parse is skipped with `continue`, one without a host falls through
    intro h s
    rcases hp : o.forwardedParse "host" (o.headerValues h) with ⟨hosts, err⟩
    cases err <;> cases hosts <;> simp [hostAt, hp]

/-- **C19 (host-derived issuer, on the regenerated per-request closure).**  For every request (every answer of
    `r.Header[·]`, `r.Host`) and every configuration, the issuer is "https://" (or "http://" in insecure mode) + the
    first host of the configured forwarding headers if any, else the request Host, + the configured path with a
    leading slash. -/
theorem C19_generated_derive (o : Ora) (path : String) (cfg : provider_issuerConfig) (insecure : Bool) :
    issuerFromForwardedOrHost_derive o path (some cfg) insecure =
      .ok ((if insecure then "http" else "https") ++ "://" ++ ((firstHost o cfg.headers).getD o.reqHost) ++ normPath path) := by
  unfold issuerFromForwardedOrHost_derive issuerFromForwardedOrHost_derive.body
  simp only [hostFromForwarded_spec, C19_dynamic_shape, deref_some, Option.isNone_some, Res.isPanic_ok, Res.get_ok, Bool.or_false]
  cases firstHost o cfg.headers <;> simp

/-- it never takes its scheme, path or any other component from the request: two requests that agree on `Host` and
    on the values of the configured headers get the same issuer (whatever their URL, query, other headers, body) -/
theorem C19_generated_derive_reads_only (o o' : Ora) (path : String) (cfg : provider_issuerConfig) (insecure : Bool)
    (hHost : o.reqHost = o'.reqHost) (hHdr : ∀ h ∈ cfg.headers, o.headerValues h = o'.headerValues h)
    (hLib : o.forwardedParse = o'.forwardedParse) :
    issuerFromForwardedOrHost_derive o path (some cfg) insecure = issuerFromForwardedOrHost_derive o' path (some cfg) insecure := by
  rw [C19_generated_derive, C19_generated_derive, hHost]
  have : firstHost o cfg.headers = firstHost o' cfg.headers := by
    generalize cfg.headers = l at hHdr
    induction l with
    | nil => rfl
    | cons h hs ih =>
      simp only [firstHost, hLib, hHdr h (List.mem_cons_self ..)]
      rw [ih (fun h' hm => hHdr h' (List.mem_cons_of_mem _ hm))]
  rw [this]

/-- what the factory's construction check answers for the configured path -/
def pathErr (o : Ora) (path : String) : Err :=
  match o.urlParse path with
  | none => some "invalid url for issuer"
  | some u =>
    if Lib.containsAny path "?#" = true then some "no fragments or query allowed for issuer"
    else if (u.Fragment != "" || u.RawQuery != "" || u.ForceQuery) = true then some "no fragments or query allowed for issuer"
    else none

theorem forwardedValidate_eq (o : Ora) (path : String) (c : Option provider_issuerConfig) (insecure : Bool) :
    issuerFromForwardedOrHost_validate o path c insecure = .ok (pathErr o path) := by
  cases hu : o.urlParse path with
  | none =>
    simp only [issuerFromForwardedOrHost_validate, issuerFromForwardedOrHost_validate.body, gosem, hu, pathErr, if_true]
  | some u =>
    simp only [issuerFromForwardedOrHost_validate, issuerFromForwardedOrHost_validate.body, gosem, hu, hasQF_eq, validatePath_eq, pathErr,
      if_true]
    simp only [Bool.cond_eq_ite]
    by_cases hq : Lib.containsAny path "?#" = true
    · simp [hq]
    · by_cases hc : (u.Fragment != "" || u.RawQuery != "" || u.ForceQuery) = true <;> simp [hq, hc]

/-- **C19 (host-derived issuer, construction).**  The factory refuses a configured path that does not parse or that
    contains `?` or `#` -/
theorem C19_generated_validate (o : Ora) (path : String) (c : Option provider_issuerConfig) (insecure : Bool)
    (h : issuerFromForwardedOrHost_validate o path c insecure = .ok none) :
    Lib.containsAny path "?#" = false ∧ ∃ u, o.urlParse path = some u := by
  rw [forwardedValidate_eq, Res.ok.injEq] at h
  cases hu : o.urlParse path with
  | none => simp [pathErr, hu] at h
  | some u =>
    simp only [pathErr, hu, ite_some_eq_none] at h
    exact ⟨by simpa using h.1, u, rfl⟩

theorem C19_generated_validate_no_panic (o : Ora) (path : String) (c : Option provider_issuerConfig) (insecure : Bool) :
    issuerFromForwardedOrHost_validate o path c insecure ≠ .panic := by
  rw [forwardedValidate_eq]; intro h; cases h

/-- **C19 (static issuer, on the regenerated factory).**  What `StaticIssuer(issuer)(insecure)` checks is exactly
    `ValidateIssuer`, and the issuer it then reports for every request is the configured string. -/
theorem C19_generated_static (o : Ora) (issuer : String) (insecure : Bool) :
    StaticIssuer_validate o issuer insecure = ValidateIssuer o issuer insecure ∧
    StaticIssuer_derive o issuer insecure = .ok issuer := by
  refine ⟨?_, rfl⟩
  unfold StaticIssuer_validate StaticIssuer_validate.body
  cases hv : ValidateIssuer o issuer insecure with
  | panic => simp
  | ok e => cases e <;> simp

/-- the provider with a static issuer can be constructed only if … (C19_static_only_if through the factory) -/
theorem C19_generated_static_only_if (o : Ora) (issuer : String) (insecure : Bool)
    (h : StaticIssuer_validate o issuer insecure = .ok none) :
    issuer ≠ "" ∧ ∃ u, o.urlParse issuer = some u ∧ u.hostname ≠ "" := by
  rw [(C19_generated_static o issuer insecure).1] at h
  obtain ⟨h1, u, h2, h3, _⟩ := C19_static_only_if o issuer insecure h
  exact ⟨h1, u, h2, h3⟩

/-- non-vacuity: a request with a Forwarded header, one without -/
def ora1 : Ora := { ora0 with
  headerValues := fun h => if h == "Forwarded" then ["host=fwd.example"] else if h == "X-Evil" then ["host=evil.example"] else []
  forwardedParse := fun _ vs => (vs.map (fun v => (v.drop 5).toString), none)
  reqHost := "req.example" }
example : issuerFromForwardedOrHost_derive ora1 "saml" (some { headers := ["Forwarded"] }) false = .ok "https://fwd.example/saml" := by decide +kernel
example : issuerFromForwardedOrHost_derive ora1 "saml" (some { headers := ["X-Other"] }) true = .ok "http://req.example/saml" := by decide +kernel
example : issuerFromForwardedOrHost_validate ora0 "https://idp/saml" none false = .ok none := by decide +kernel
example : issuerFromForwardedOrHost_validate ora0 "https://idp/saml?" none false = .ok (some "no fragments or query allowed for issuer") := by decide +kernel
example : StaticIssuer_validate ora0 "https://idp/saml" false = .ok none := by decide +kernel

end C19
