import SamlModel.Props.MetadataGen
import SamlModel.Lemmas.GoSem
/-!
  C09 on the regenerated metadata handler: `Provider.metadataHandle` terminates with a regular HTTP response for every
  answer of its environment, given what construction establishes (`NewProvider` dereferences `conf.IDPConfig`, so a
  provider that serves requests has one) and the contract of `IdentityProvider.GetMetadata` (no error => both
  descriptors; it is translated standalone, MetadataGen.getMetadata_spec).
-/
namespace C09
open Go Gen Consts MetadataGen

variable (o : Ora) (st : Unit) (c : provider_Config) (idp : Option provider_IdentityProvider)

/-- `IdentityProvider.GetMetadata` hands back both descriptors whenever it reports no error -/
def DescriptorsOK : Prop :=
  (o.m_GetMetadata idp).2.2 = none → (o.m_GetMetadata idp).1.isSome ∧ (o.m_GetMetadata idp).2.1.isSome

/-- `Config.getMetadata` as regenerated: no panic, and an entity descriptor whenever no error -/
theorem config_getMetadata_total (hc : c.IDPConfig.isSome) (hd : DescriptorsOK o idp) :
    ∃ md e, Config_getMetadata o (some c) idp = .ok (md, e) ∧ (e = none → md.isSome) := by
  unfold DescriptorsOK at hd
  rcases hm : o.m_GetMetadata idp with ⟨d1, d2, e⟩
  rw [hm] at hd
  obtain ⟨cfg, hcfg⟩ := Option.isSome_iff_exists.mp hc
  simp only [Config_getMetadata, Config_getMetadata.body, gosem, hm, hcfg, if_true, if_false, Bool.false_eq_true]
  simp only [Bool.cond_eq_ite]
  cases e with
  | some e => exact ⟨none, some e, rfl, by simp⟩
  | none =>
    obtain ⟨h1, h2⟩ := hd rfl
    obtain ⟨d1, rfl⟩ := Option.isSome_iff_exists.mp h1
    obtain ⟨d2, rfl⟩ := Option.isSome_iff_exists.mp h2
    cases c.Organisation <;> cases c.ContactPerson <;> refine ⟨_, _, rfl, fun _ => ?_⟩ <;> rfl

/-- **C09 on the regenerated metadata handler**: it never panics - every run ends in HTTP 500 or a written document -/
theorem C09_generated_metadata_handler (hc : c.IDPConfig.isSome) (hd : DescriptorsOK o idp) :
    Provider_metadataHandle o (prov st c idp) ≠ .panic := by
  rw [metadataHandle_spec]
  obtain ⟨md, e, hcm, hmd⟩ := config_getMetadata_total o c idp hc hd
  rw [hcm]
  cases e with
  | some e => simp
  | none =>
    obtain ⟨m, rfl⟩ := Option.isSome_iff_exists.mp (hmd rfl)
    simp only
    by_cases hs : signing c = true
    · rw [if_pos hs, getMetadataCert_eq]
      rcases FnLemmas.certSpec o.m_GetMetadataSigningKey with ⟨cert, key, _ | ke⟩
      · simp only
        rcases hsg : o.f_GetSigner cert key (alg c) with ⟨signer, se⟩
        cases se with
        | some se => simp
        | none =>
          rcases hcr : o.f_Create_EntityDescriptorType signer (some m) with ⟨sig, ce⟩
          cases ce <;> simp [hcr]
      · simp
    · rw [if_neg hs]; simp

/-- the oracle `Config.getMetadata` consults is the regenerated `IdentityProvider.GetMetadata` -/
def GetMetadataIsGenerated (o : Ora) (idp : Option provider_IdentityProvider) : Prop :=
  IdentityProvider_GetMetadata o idp = .ok (o.m_GetMetadata idp)

/-- ... then `DescriptorsOK` is a theorem about the library, for an identity provider as `NewIdentityProvider` builds it
    (configuration, metadata options and metadata endpoint present) -/
theorem descriptorsOK_of_generated (o : Ora) (idpv : provider_IdentityProvider) (c : provider_IdentityProviderConfig)
    (mc : provider_MetadataIDPConfig) (mep : provider_Endpoint) (hc : idpv.conf = some c) (hmc : c.MetadataIDPConfig = some mc)
    (hme : idpv.metadataEndpoint = some mep) (hlink : GetMetadataIsGenerated o (some idpv)) :
    DescriptorsOK o (some idpv) := by
  intro hnone
  have h := MetadataGen.C11_generated_metadata o idpv c mc mep hc hmc hme
  -- `hlink` identifies the oracle's answer with that of the regenerated function, which `h` describes
  unfold GetMetadataIsGenerated at hlink
  cases hr : getResponseCert o idpv.storage with
  | panic => rw [hr] at h; simp only at h; rw [h] at hlink; cases hlink
  | ok t =>
    obtain ⟨cert, key, e⟩ := t
    rw [hr] at h
    cases e with
    | some e =>
      simp only at h
      rw [h] at hlink
      injection hlink with hl
      rw [← hl] at hnone
      simp at hnone
    | none =>
      simp only at h
      obtain ⟨md, aa, hg, _⟩ := h
      rw [hg] at hlink
      injection hlink with hl
      rw [← hl]
      simp

end C09
