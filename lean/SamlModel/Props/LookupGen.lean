import SamlModel.Generated.Funcs
/-!
  Props.LookupGen — `IdentityProvider.GetServiceProvider` is *translated* (standalone: the handlers keep the oracle of the
  same name): it is the storage's `GetEntityByID` and nothing else, so what the handlers' theorems say about "the service
  provider registered for the Issuer" is about the record the integrator's storage returns for that entity ID.
-/
namespace LookupGen
open Go Gen

/-- **the regenerated lookup is the storage's lookup**, for every entity ID -/
theorem getServiceProvider_spec (o : Ora) (p : Option provider_IdentityProvider) (entityID : String) :
    IdentityProvider_GetServiceProvider o p entityID = .ok (o.m_GetEntityByID entityID) := rfl

/-- the lookup oracle the handlers consult is the regenerated `GetServiceProvider` -/
def LookupIsGenerated (o : Ora) (p : Option provider_IdentityProvider) : Prop :=
  ∀ entityID, IdentityProvider_GetServiceProvider o p entityID = .ok (o.m_GetServiceProvider p entityID)

/-- ... then every service provider a handler works with is the storage's record for the entity ID it asked for -/
theorem lookup_is_storage (o : Ora) (p : Option provider_IdentityProvider) (h : LookupIsGenerated o p) (entityID : String) :
    o.m_GetServiceProvider p entityID = o.m_GetEntityByID entityID :=
  (Res.ok.inj (h entityID)).symm

end LookupGen
