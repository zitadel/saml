import SamlModel.Model.FactsUtil
/-!
  Props.Stateless — the frame condition behind every per-request theorem.

  The handler models (`Sso.sso`, `Callback.callback`, `Logout.logout`, `AttrQuery.attrQuery`, `Metadata.metadata`) are
  functions of one request, the configuration and the storage answers.  That is the whole truth about a request served
  by a long-lived provider only if nothing a handler can reach keeps data from one request to the next.  This module
  states that premise over facts regenerated from the source on every run (go2lean, shared.go):

  * no assignment through a pointer to the provider / identity-provider / configuration / endpoint / service-provider
    structs in any function reachable from a route handler (object-level call graph over all packages of the module;
    writes to values freshly allocated in the same function do not count);
  * no use of a package-level variable of a kind that can carry data (anything but strings, numbers, errors,
    functions, compiled regular expressions, parsed templates), and no `sync` / `sync/atomic` primitive sitting in one
    of those structs;
  * those structs have exactly the fields the models were written against (a cache needs a field or a package variable).

  A change that breaks it is not by itself a violation: the runner then searches for a history on which a long-lived
  provider and a freshly built one answer the same request differently (harness `reuse`).
-/
namespace Stateless

theorem handlers_stateless :
    Gen.Facts.sharedTouches = [] ∧
    Gen.Facts.globals.all (fun g => g.2.2 == "safe") = true ∧
    Gen.Facts.sharedFields = Expected.sharedFields ∧
    Gen.Facts.writes.all (fun w => !w.2.2) = true :=
  ⟨by decide +kernel, by decide +kernel, by decide +kernel, by decide +kernel⟩

end Stateless
