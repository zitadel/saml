import SamlModel.Model.Callback
import SamlModel.Props.Current
import SamlModel.Lemmas.ByteIndex
import SamlModel.Props.RedirectQuery
import SamlModel.Lemmas.GoSem
/-!
  Props.SendBack — `Response.sendBackResponse` is *translated* (go2lean regenerates it from response.go on every run: the
  writes to the client — `xml.Write`, the POST template, `http.Redirect`, the `ErrorFunc` callback — are the effect trace
  it returns; `xml.Marshal`, `xml.DeflateAndBase64` and the error a write returns are typed oracles; `strings.Index`,
  the two string slices and `strings.Contains` are the byte-offset functions of Lib.Strings).

  `sendBack_renders`: for every `Response`, message and environment the generated function writes exactly `render`:
  the marshalled message as the body when there is no consumer URL or the binding is neither POST nor Redirect, the
  auto-submitting form with (RelayState, base64 message, consumer URL) for POST, and for Redirect a 302 to
  `Lib.Url.redirectURL acs (buildQ …)` — the consumer URL with the message parameters inserted before its fragment,
  joined by `?` or `&` — which is the URL the theorems of C02 (`C02_wire_redirect`) and C04 (`C04_redirect_url…`) are
  about.  `sendBack_delivers` reads the same off `Callback.deliver`, the hand model's one-step summary of this function.
-/
namespace SendBack
open Go Gen Consts Callback Redirect

/-- what follows a write: nothing, or the error callback with the write error -/
def after (o : Ora) (k : Nat) : List Eff :=
  match o.writeErr "Response_sendBackResponse" k with
  | none => []
  | some e => [.callErrorFunc e]

/-- what `sendBackResponse` writes -/
def render (o : Ora) (resp : provider_Response) (m : Option samlp_ResponseType) : List Eff :=
  match o.f_Marshal_ResponseType m with
  | (_, some e) => [.callErrorFunc e]
  | (data, none) =>
    if resp.AcsUrl = "" then .xmlWrite data :: after o 0
    else if resp.ProtocolBinding = postBinding then
      .templateExecute { RelayState := resp.RelayState, SAMLResponse := Lib.b64encode data, AssertionConsumerServiceURL := resp.AcsUrl } ::
        after o 1
    else if resp.ProtocolBinding = redirectBinding then
      match o.f_DeflateAndBase64 data with
      | (_, some e) => [.callErrorFunc e]
      | (d, none) =>
        [.httpRedirect (String.ofList (Lib.Url.redirectURL resp.AcsUrl.toList
          (buildQ (Lib.bytesToString d) resp.RelayState resp.SigAlg resp.Signature))) 302]
    else .xmlWrite data :: after o 2

/-- the URL of the redirect, as the generated code computes it (`strings.Index` / slices / `strings.Contains`) -/
theorem redirect_target (acs q : String) :
    (if Lib.indexChar acs '#' ≥ 0 then
        Lib.byteTake acs (Lib.indexChar acs '#') ++
          (if (Lib.byteTake acs (Lib.indexChar acs '#')).toList.contains '?' then "&" else "?") ++ q ++
          Lib.byteDrop acs (Lib.indexChar acs '#')
      else acs ++ (if acs.toList.contains '?' then "&" else "?") ++ q ++ "") =
      String.ofList (Lib.Url.redirectURL acs.toList q.toList) := by
  apply String.toList_inj.mp
  by_cases h : '#' ∈ acs.toList
  · have hi : Lib.indexChar acs '#' ≥ 0 := by rw [Lib.indexChar_nonneg h]; omega
    rw [if_pos hi, Lib.byteTake_indexChar h, Lib.byteDrop_indexChar h]
    by_cases hq : '?' ∈ List.takeWhile (fun x => x != '#') acs.toList <;>
      simp [Lib.Url.redirectURL, Lib.Url.redirectTarget, Lib.Url.redirectFragment, hq]
  · have hi : ¬ Lib.indexChar acs '#' ≥ 0 := by rw [Lib.indexChar_neg h]; omega
    rw [if_neg hi]
    obtain ⟨ht, hd⟩ := Lib.Url.redirect_noHash h
    by_cases hq : '?' ∈ acs.toList <;> simp [Lib.Url.redirectURL, hq, ht, hd]

/-- **`sendBackResponse` as regenerated from response.go writes exactly `render`**, for every `Response`, every message
    and every answer of the marshaller, the compressor and the client connection; it never panics (the slice offsets it
    computes are within the consumer URL) -/
theorem sendBack_renders (o : Ora) (resp : provider_Response) (m : Option samlp_ResponseType) :
    Response_sendBackResponse o (some resp) m = .ok (render o resp m) := by
  rcases hm : o.f_Marshal_ResponseType m with ⟨data, e⟩
  rcases hd : o.f_DeflateAndBase64 data with ⟨d, e'⟩
  generalize hw0 : o.writeErr "Response_sendBackResponse" 0 = w0
  generalize hw1 : o.writeErr "Response_sendBackResponse" 1 = w1
  generalize hw2 : o.writeErr "Response_sendBackResponse" 2 = w2
  simp only [Response_sendBackResponse, Response_sendBackResponse.body, gosem, render, after, Redirect.BuildRedirectQuery_eq,
    postBinding, redirectBinding, hm, hd, hw0, hw1, hw2]
  simp only [Bool.cond_eq_ite]
  cases e with
  | some e => simp
  | none =>
  by_cases hacs : resp.AcsUrl = ""
  · cases w0 <;> simp [hacs]
  by_cases hp : resp.ProtocolBinding = "urn:oasis:names:tc:SAML:2.0:bindings:HTTP-POST"
  · cases w1 <;> simp [hacs, hp]
  by_cases hr : resp.ProtocolBinding = "urn:oasis:names:tc:SAML:2.0:bindings:HTTP-Redirect"
  · cases e' with
    | some e => simp [hacs, hr, hd]
    | none =>
      -- the slice offsets lie within the consumer URL, and the pieces make up `Lib.Url.redirectURL`
      have hlen := Lib.indexChar_le_len resp.AcsUrl '#'
      have ht := redirect_target resp.AcsUrl (String.ofList (buildQ (Lib.bytesToString d) resp.RelayState resp.SigAlg resp.Signature))
      by_cases hi : 0 ≤ Lib.indexChar resp.AcsUrl '#'
      · have hn : ¬ Lib.indexChar resp.AcsUrl '#' < 0 := by omega
        have hn2 : ¬ Lib.goLen resp.AcsUrl < Lib.indexChar resp.AcsUrl '#' := by omega
        by_cases hc : '?' ∈ (Lib.byteTake resp.AcsUrl (Lib.indexChar resp.AcsUrl '#')).toList <;>
          simpa [hacs, hr, hd, hi, hn, hn2, hc] using ht
      · by_cases hc : '?' ∈ resp.AcsUrl.toList <;> simpa [hacs, hr, hd, hi, hc] using ht
  · cases w2 <;> simp [hacs, hp, hr]

/-- **the hand model's delivery is what the regenerated `sendBackResponse` does**: `Callback.deliver` names the first
    write of `render` — the body, the POST form with exactly (RelayState, base64 message, consumer URL), or the redirect
    to `Lib.Url.redirectURL` of the consumer URL and the message parameters -/
theorem sendBack_delivers (o : Ora) (resp : provider_Response) (m : Option samlp_ResponseType) (data : Lib.Bytes)
    (hm : o.f_Marshal_ResponseType m = (data, none)) :
    match Callback.deliver resp.AcsUrl resp.ProtocolBinding resp.RelayState with
    | .xmlBody => (render o resp m).head? = some (.xmlWrite data)
    | .postForm acs relay =>
      (render o resp m).head? = some (.templateExecute { RelayState := relay, SAMLResponse := Lib.b64encode data, AssertionConsumerServiceURL := acs })
    | .redirect acs relay =>
      ∀ d, o.f_DeflateAndBase64 data = (d, none) →
        render o resp m = [.httpRedirect (String.ofList (Lib.Url.redirectURL acs.toList
          (buildQ (Lib.bytesToString d) relay resp.SigAlg resp.Signature))) 302] := by
  unfold Callback.deliver render
  rw [hm]
  by_cases hacs : resp.AcsUrl = ""
  · simp [hacs]
  · by_cases hp : resp.ProtocolBinding = postBinding
    · simp [hacs, hp]
    · by_cases hr : resp.ProtocolBinding = redirectBinding
      · simp [hacs, hr, redirect_ne_post]
        intro d hd
        simp [hd]
      · simp [hacs, hp, hr]

end SendBack
