import SamlModel.Props.C12
import SamlModel.Props.C09
import SamlModel.Props.AttrQueryGen
/-!
  Props.AttrQueryProps — C12 (and C09) stated on the *regenerated* `attributeQueryHandleFunc`
  (`AttrQueryGen.attrquery_handler_refines` transports the theorems about the attribute-query model to it).
-/
namespace AttrQueryGen
open Go Gen CallbackGen

/-- `attrquery_handler_refines` with its statement written out -/
theorem refines {o : Ora} {cfg : provider_IdentityProviderConfig} {fmt : String} {exp : Int} (henv : EnvOK o cfg fmt exp) :
    outOf (lookedUpOf o) (IdentityProvider_attributeQueryHandleFunc o (idp cfg fmt exp)) =
      some (AttrQuery.attrQuery o (inOfOra o cfg fmt exp)) :=
  attrquery_handler_refines o cfg fmt exp henv

end AttrQueryGen

namespace C12
open Go Gen Consts AttrQueryGen CallbackGen AttrQuery FnLemmas

variable (o : Ora) (cfg : provider_IdentityProviderConfig) (fmt : String) (exp : Int)

private theorem model_status (i : In) (c : Nat) (h : attrQuery o i = .httpError c) : c = 500 := by
  have he := attrQuery_ends o i
  rw [h] at he
  cases he with
  | refused => rfl

/-- **C12 on the regenerated handler.**  `attributeQueryHandleFunc` as regenerated from attribute_query.go on this run,
    in any environment honouring `EnvOK`: if it writes a SOAP envelope at all, then the request decoded to a query `q`
    with an Issuer the storage knows (`sp`), a signature value it carries verified, its Destination (when present) is an
    advertised attribute-service location, the subject was looked up by its NameID, and the response in the envelope
    echoes the query ID, is issued by the IdP, names the requester as audience, and carries the user's NameID and
    exactly the user's attributes filtered by the requested (Name, NameFormat) pairs - nothing else of the user. -/
theorem C12_generated_handler (henv : EnvOK o cfg fmt exp) (env : Option soap_ResponseEnvelope) (rest : List Eff)
    (ht : IdentityProvider_attributeQueryHandleFunc o (idp cfg fmt exp) = .ok (Eff.xmlWriteMarshalled env :: rest)) :
    ∃ q sp subj attrs m e r, decodedOf o = some (some q) ∧ q.Issuer.isSome ∧ spOf o cfg fmt exp = some sp ∧
      (embProvided q.Signature = true → o.m_ValidateAttributeQuerySignature (some sp) (bodyOf o) = none) ∧
      DestOK (o.m_GetMetadata (idp cfg fmt exp)).2.1 q ∧
      q.Subject.NameID = some subj ∧ userOf o = some attrs ∧ sp.Metadata = some m ∧
      env = some e ∧ e.Body.Response = some r ∧
      answerOf subj.Text r = some (expected q.Id (o.m_GetEntityID (idp cfg fmt exp)) m.EntityID attrs q.Attribute subj.Text) := by
  have h := refines henv
  rw [ht] at h
  -- whichever way the run was read, its first write is the envelope
  have hrep : outOfEff (lookedUpOf o) (Eff.xmlWriteMarshalled env) = attrQuery o (inOfOra o cfg fmt exp) := by
    rcases outOf_eq_some h with ⟨hp, _⟩ | ⟨e, he, hx⟩ | ⟨env', m, c, he, hx⟩
    · cases hp
    · cases he
      exact hx
    · cases he
      exact hx
  cases env with
  | none => simp only [outOfEff] at hrep; exact nomatch model_status o _ 0 hrep.symm
  | some e =>
  cases hr : e.Body.Response with
  | none => simp only [outOfEff, hr] at hrep; exact nomatch model_status o _ 0 hrep.symm
  | some r =>
  cases ha : answerOf (lookedUpOf o) r with
  | none => simp only [outOfEff, hr, ha] at hrep; exact nomatch model_status o _ 0 hrep.symm
  | some a =>
  simp only [outOfEff, hr, ha] at hrep
  obtain ⟨q, iss, subj, sp, m, attrs, w, rfl⟩ := AttrQuery.answered hrep.symm
  have hdq : decodedOf o = some (some q) := w.hdec
  have hsp : spOf o cfg fmt exp = some sp := w.hsp
  have hlk : lookedUpOf o = subj.Text := by simp [lookedUpOf, queryOf, hdq, w.hsubj]
  refine ⟨q, sp, subj, attrs, m, e, r, hdq, by simp [w.hiss], hsp, ?_, destAq_ok o _ q w.h6, w.hsubj, w.hui, w.hm, rfl, hr, ?_⟩
  · intro hp
    simpa [inOfOra, hsp] using w.h5 hp
  · rw [← hlk, ha, hlk]
    rfl

end C12

namespace C09
open Go Gen AttrQueryGen CallbackGen

/-- **C09 on the regenerated attribute-query handler**: in any environment honouring `EnvOK` in which the registered
    service provider has metadata and the IdP publishes its attribute-authority descriptor, `attributeQueryHandleFunc`
    as regenerated from attribute_query.go on this run does not panic -/
theorem C09_generated_attrquery_handler (o : Ora) (cfg : provider_IdentityProviderConfig) (fmt : String) (exp : Int)
    (henv : EnvOK o cfg fmt exp)
    (hsp : ∀ sp, spOf o cfg fmt exp = some sp → sp.Metadata.isSome)
    (haa : (o.m_GetMetadata (idp cfg fmt exp)).2.2 = none → (o.m_GetMetadata (idp cfg fmt exp)).2.1.isSome) :
    IdentityProvider_attributeQueryHandleFunc o (idp cfg fmt exp) ≠ .panic := by
  intro hp
  have h := refines henv
  rw [hp] at h
  simp only [outOf, Option.some.injEq] at h
  exact C09_attrquery o (inOfOra o cfg fmt exp) hsp (fun hme => haa (by simpa [metaErr_eq] using hme)) h.symm

end C09
