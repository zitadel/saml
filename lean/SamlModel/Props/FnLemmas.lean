import SamlModel.Model.Consts
import SamlModel.Generated.Funcs
import SamlModel.Lemmas.GoSem
/-!
  Characterisations of go2lean-generated helper functions: what each returns, for all inputs, in a
  form the property theorems can use.  These lemmas unfold the *generated* bodies; when the source of
  a helper changes they stop checking (a broken proof obligation of every property that imports them).
-/
namespace FnLemmas
open Go Gen Consts

def xsTrue (s : String) : Bool := s == "true" || s == "1"

theorem xs_eq (o : Ora) (v : String) : isXSBooleanTrue o v = .ok (xsTrue v) := by
  simp only [isXSBooleanTrue, isXSBooleanTrue.body, gosem, xsTrue]

/-- AuthnRequestsSigned of the service provider metadata (absent descriptor counts as "required", as in the code) -/
def spRequires (spMeta : Option md_EntityDescriptorType) : Bool :=
  match spMeta with
  | none => true
  | some m => match m.SPSSODescriptor with
    | none => true
    | some d => xsTrue d.AuthnRequestsSigned

/-- WantAuthnRequestsSigned of the IdP metadata (no IdP metadata counts as "required", as in the code) -/
def idpRequires (idpMeta : Option md_IDPSSODescriptorType) : Bool :=
  match idpMeta with
  | none => true
  | some m => xsTrue m.WantAuthnRequestsSigned

/-- an embedded signature with a non-empty value -/
def embProvided (sig : Option xml_dsig_SignatureType) : Bool :=
  match sig with
  | none => false
  | some s => s.SignatureValue.Text != ""

theorem signaturePostProvided_eq (o : Ora) (sig : Option xml_dsig_SignatureType) :
    signaturePostProvided o sig = .ok (embProvided sig) := by
  cases sig with
  | none => simp [signaturePostProvided, signaturePostProvided.body, gosem, embProvided]
  | some s =>
    simp only [signaturePostProvided, signaturePostProvided.body, gosem, embProvided]
    -- the code also compares the whole `SignatureValue` with its zero value, which a non-empty text excludes
    by_cases h : s.SignatureValue.Text = ""
    · simp [h]
    · have : s.SignatureValue ≠ default := fun hd => h (hd ▸ rfl)
      simp [h, this]

theorem sigRedirNec_eq (o : Ora) (idpMeta : Option md_IDPSSODescriptorType) (spMeta : Option md_EntityDescriptorType) (sig binding : String) :
    signatureRedirectVerificationNecessary o idpMeta spMeta sig binding =
      .ok ((spRequires spMeta || idpRequires idpMeta || sig != "") && binding == redirectBinding) := by
  simp only [signatureRedirectVerificationNecessary, signatureRedirectVerificationNecessary.body, gosem, xs_eq, spRequires, idpRequires,
    redirectBinding]
  simp only [Bool.cond_eq_ite]
  rcases spMeta with _ | m
  · cases idpMeta <;> simp [gosem]
  · cases hd : m.SPSSODescriptor <;> cases idpMeta <;> simp [gosem, hd]

theorem sigPostNec_eq (o : Ora) (idpMeta : Option md_IDPSSODescriptorType) (spMeta : Option md_EntityDescriptorType)
    (sig : Option xml_dsig_SignatureType) (binding : String) :
    signaturePostVerificationNecessary o idpMeta spMeta sig binding =
      .ok ((spRequires spMeta || idpRequires idpMeta || embProvided sig) && binding == postBinding) := by
  simp only [signaturePostVerificationNecessary, signaturePostVerificationNecessary.body, gosem, xs_eq, signaturePostProvided_eq,
    spRequires, idpRequires, postBinding]
  simp only [Bool.cond_eq_ite]
  rcases spMeta with _ | m
  · cases idpMeta <;> simp [gosem]
  · cases hd : m.SPSSODescriptor <;> cases idpMeta <;> simp [gosem, hd]

theorem verifyRedirect_eq (o : Ora) (req relay sig alg : String) (sp : Option serviceprovider_ServiceProvider) :
    verifyRedirectSignature o req relay sig alg sp = .ok (
      if req = "" then some "no authrequest provided but required"
      else if sig = "" then some "no signature provided but required"
      else if alg = "" then some "no signature algorithm provided but required"
      else o.m_ValidateRedirectSignature sp req relay alg sig) := by
  simp only [verifyRedirectSignature, verifyRedirectSignature.body, gosem]
  simp only [Bool.cond_eq_ite]
  by_cases h1 : req = "" <;> by_cases h2 : sig = "" <;> by_cases h3 : alg = "" <;> simp [h1, h2, h3]

theorem verifyRedirect_ok (o : Ora) (req relay sig alg : String) (sp : Option serviceprovider_ServiceProvider) :
    verifyRedirectSignature o req relay sig alg sp = .ok none ↔
      req ≠ "" ∧ sig ≠ "" ∧ alg ≠ "" ∧ o.m_ValidateRedirectSignature sp req relay alg sig = none := by
  rw [verifyRedirect_eq, Res.ok.injEq]
  simp only [ite_some_eq_none, ne_eq]

theorem verifyRedirect_noPanic {o : Ora} {req relay sig alg : String} {sp : Option serviceprovider_ServiceProvider} :
    verifyRedirectSignature o req relay sig alg sp ≠ .panic := by
  rw [verifyRedirect_eq]; nofun

theorem verifyPost_eq (o : Ora) (req : String) (sp : Option serviceprovider_ServiceProvider) :
    verifyPostSignature o req sp = .ok (
      match Lib.b64decode req with
      | none => some "base64"
      | some data => o.m_ValidatePostSignature sp (Lib.bytesToString data)) := by
  simp only [verifyPostSignature, verifyPostSignature.body, gosem]
  simp only [Bool.cond_eq_ite]
  cases Lib.b64decode req with
  | none => simp
  | some d => cases h : o.m_ValidatePostSignature sp (Lib.bytesToString d) <;> simp [h]

theorem verifyPost_ok (o : Ora) (req : String) (sp : Option serviceprovider_ServiceProvider) :
    verifyPostSignature o req sp = .ok none ↔
      ∃ data, Lib.b64decode req = some data ∧ o.m_ValidatePostSignature sp (Lib.bytesToString data) = none := by
  rw [verifyPost_eq]
  cases Lib.b64decode req <;> simp

theorem verifyPost_noPanic {o : Ora} {req : String} {sp : Option serviceprovider_ServiceProvider} :
    verifyPostSignature o req sp ≠ .panic := by
  rw [verifyPost_eq]; nofun

/-- `len(xs) == 0` -/
theorem lenInt_beq_zero {α : Type} (xs : List α) : ((xs.length : Int) == 0) = xs.isEmpty := by
  cases xs
  · rfl
  · simp; omega

/-- what `getResponseCert` and `getMetadataCert` make of the key storage's answer: certificate and key of a record that
    has both, an error otherwise -/
def certSpec (g : Option key_CertificateAndKey × Err) : Lib.Bytes × Option KeyRec × Err :=
  match g with
  | (_, some e) => ([], none, some e)
  | (none, none) => ([], none, some "signer has no key")
  | (some ck, none) =>
    if ck.Key = none ∨ ck.Certificate = [] then ([], none, some "signer has no key") else (ck.Certificate, ck.Key, none)

theorem certSpec_fails (g : Option key_CertificateAndKey × Err) :
    (certSpec g).2.2.isSome ↔ g.2.isSome ∨ g.1 = none ∨ ∃ ck, g.1 = some ck ∧ (ck.Key = none ∨ ck.Certificate = []) := by
  obtain ⟨ck, e⟩ := g
  cases e with
  | some e => simp [certSpec]
  | none =>
    cases ck with
    | none => simp [certSpec]
    | some ck => by_cases h : ck.Key = none ∨ ck.Certificate = [] <;> simp [certSpec, h]

theorem getResponseCert_eq (o : Ora) : getResponseCert o () = .ok (certSpec o.m_GetResponseSigningKey) := by
  rcases h : o.m_GetResponseSigningKey with ⟨ck, e⟩
  simp only [getResponseCert, getResponseCert.body, gosem, h, lenInt_beq_zero, certSpec]
  simp only [Bool.cond_eq_ite]
  cases e with
  | some e => simp
  | none =>
    cases ck with
    | none => simp [gosem]
    | some ck =>
      cases hk : ck.Key <;> cases hl : ck.Certificate <;> simp [gosem, hk, hl]

def spKeys (md : Option md_EntityDescriptorType) : List md_KeyDescriptorType :=
  match md with
  | none => []
  | some m => match m.SPSSODescriptor with
    | none => []
    | some d => d.KeyDescriptor

theorem certNec_eq (o : Ora) (sig : Option xml_dsig_SignatureType) (md : Option md_EntityDescriptorType) :
    certificateCheckNecessary o sig md =
      .ok (match sig with
           | none => false
           | some s => s.KeyInfo.isSome && !(spKeys md).isEmpty) := by
  simp only [certificateCheckNecessary, certificateCheckNecessary.body, gosem, spKeys]
  simp only [Bool.cond_eq_ite]
  cases sig with
  | none => simp
  | some s =>
    cases s.KeyInfo <;> cases md with
    | none => simp [gosem]
    | some m => cases hd : m.SPSSODescriptor with
      | none => simp [gosem, hd]
      | some d => cases hkd : d.KeyDescriptor <;> simp [gosem, hd, hkd]

theorem equalCert_eq (o : Ora) (a b : String) :
    equalCertificateText o a b = .ok (Lib.join (Lib.fields a) "" == Lib.join (Lib.fields b) "") := by
  simp only [equalCertificateText, equalCertificateText.body, gosem]

/-- some certificate of the request's KeyInfo is, up to white space, one registered for the service provider -/
def certKnown (ki : xml_dsig_KeyInfoType) (kds : List md_KeyDescriptorType) : Bool :=
  kds.any fun kd => kd.KeyInfo.X509Data.any fun spX => ki.X509Data.any fun rq =>
    Lib.join (Lib.fields spX.X509Certificate) "" == Lib.join (Lib.fields rq.X509Certificate) ""

theorem checkCertificate_eq (o : Ora) (sig : Option xml_dsig_SignatureType) (md : Option md_EntityDescriptorType) :
    checkCertificate o sig md = .ok (
      if spKeys md = [] then some "no certifcate known from this service provider" else
      match sig.bind (·.KeyInfo) with
      | none => some "no certifcate provided in request"
      | some ki =>
        if ki.X509Data = [] then some "no certifcate provided in request"
        else if certKnown ki (spKeys md) then none else some "unknown certificate used to sign request") := by
  cases md with
  | none => simp [checkCertificate, checkCertificate.body, gosem, spKeys]
  | some m =>
  cases hd : m.SPSSODescriptor with
  | none => simp [checkCertificate, checkCertificate.body, gosem, spKeys, hd]
  | some d =>
  cases sig with
  | none =>
    simp only [checkCertificate, checkCertificate.body, gosem, spKeys, hd, lenInt_beq_zero]
    simp only [Bool.cond_eq_ite]
    cases d.KeyDescriptor <;> simp
  | some s =>
  cases hk : s.KeyInfo with
  | none =>
    simp only [checkCertificate, checkCertificate.body, gosem, spKeys, hd, hk, lenInt_beq_zero]
    simp only [Bool.cond_eq_ite]
    cases d.KeyDescriptor <;> simp [hk]
  | some ki =>
    simp only [checkCertificate, checkCertificate.body, gosem, spKeys, hd, hk, Option.bind]
    -- three nested searches, none of which changes the frame
    rw [goFor_ret_any (p := fun kd => kd.KeyInfo.X509Data.any fun spX => ki.X509Data.any fun rq =>
      Lib.join (Lib.fields spX.X509Certificate) "" == Lib.join (Lib.fields rq.X509Certificate) "") (r := none)]
    · simp only [Bool.cond_eq_ite, certKnown, lenInt_beq_zero, Bool.or_self, List.isEmpty_iff]
      generalize (d.KeyDescriptor.any _) = known
      by_cases hkd : d.KeyDescriptor = [] <;> by_cases hx : ki.X509Data = [] <;> cases known <;> simp [hkd, hx, gosem]
    · intro kd
      apply goFor_ret_any
      intro spX
      simp only [hk, deref_some, Option.isNone_some, Bool.or_self, cond_false]
      apply goFor_ret_any
      intro rq
      simp only [equalCert_eq, gosem]

/-- the certificates `GetCertsFromKeyDescriptors` takes from one key descriptor: the non-empty ones, if its use is signing
    or unspecified -/
def signingCerts (use : String) (xs : List xml_dsig_X509DataType) : List String :=
  if use == "" || use == "signing" then (xs.filter fun x => Lib.goLen x.X509Certificate != 0).map (·.X509Certificate) else []

theorem getCerts_eq (o : Ora) (kds : List md_KeyDescriptorType) :
    GetCertsFromKeyDescriptors o kds = .ok (kds.flatMap fun kd => signingCerts kd.Use kd.KeyInfo.X509Data) := by
  simp only [GetCertsFromKeyDescriptors, GetCertsFromKeyDescriptors.body, gosem, cond_next]
  -- both loops only update the frame, and what they do to it is append to `certStrs`
  rw [goFor_acc (g := fun kd s => { s with certStrs := s.certStrs ++ signingCerts kd.Use kd.KeyInfo.X509Data })
    (P := fun ks s => { s with certStrs := s.certStrs ++ ks.flatMap fun kd => signingCerts kd.Use kd.KeyInfo.X509Data })]
  · cases kds <;> simp [gosem]
  · intro kd s
    refine goFor_acc (fun _ _ => rfl)
      (fun xs (s : GetCertsFromKeyDescriptors.Frame) => { s with certStrs := s.certStrs ++ signingCerts kd.Use xs }) ?_ ?_ _ _
    · simp [signingCerts]
    · intro x xs s
      cases h1 : Lib.goLen x.X509Certificate != 0 <;> cases h2 : (kd.Use == "" || kd.Use == "signing") <;>
        simp [signingCerts, h1, h2]
  · simp
  · simp

/-- the validity window the code enforces (`time.go`) -/
def TimeOK (o : Ora) (fmt nb noa : String) : Prop :=
  (nb ≠ "" → ∃ t, o.timeParse fmt nb = some t ∧ t ≤ o.now) ∧
  (noa ≠ "" → ∃ t, o.timeParse fmt noa = some t ∧ o.now < t)

/-- the second half of `timeSpec` below: the NotOnOrAfter bound -/
def timeSpec2 (o : Ora) (fmt noa : String) : Err :=
  if noa = "" then none else
  match o.timeParse fmt noa with
  | none => some ("failed to parse NotOnOrAfter: " ++ "time.Parse")
  | some u => if u = o.now ∨ u < o.now then some "on or after time given by NotOnOrAfter" else none

/-- what `checkIfRequestTimeIsStillValid` returns, written out -/
def timeSpec (o : Ora) (fmt nb noa : String) : Err :=
  if nb = "" then timeSpec2 o fmt noa else
  match o.timeParse fmt nb with
  | none => some ("failed to parse NotBefore: " ++ "time.Parse")
  | some t => if t > o.now then some "before time given by NotBefore" else timeSpec2 o fmt noa

theorem timeCheck_eq (o : Ora) (nb noa fmt : String) :
    checkIfRequestTimeIsStillValid o nb noa fmt = .ok (timeSpec o fmt nb noa) := by
  unfold checkIfRequestTimeIsStillValid checkIfRequestTimeIsStillValid.body timeSpec timeSpec2
  by_cases h1 : nb = "" <;> by_cases h2 : noa = ""
  · simp [h1, h2]
  · cases hp : o.timeParse fmt noa with
    | none => simp [h1, h2, hp]
    | some t =>
      by_cases ha : t = o.now ∨ t < o.now <;> simp [h1, h2, hp, ha]
  · cases hp : o.timeParse fmt nb with
    | none => simp [h1, hp]
    | some t =>
      by_cases ha : t > o.now <;> simp [h1, h2, hp, ha]
  · cases hp : o.timeParse fmt nb with
    | none => simp [h1, hp]
    | some t =>
      by_cases ha : t > o.now
      · simp [h1, hp, ha]
      · cases hq : o.timeParse fmt noa with
        | none => simp [h1, h2, hp, hq, ha]
        | some u =>
          by_cases hb : u = o.now ∨ u < o.now <;> simp [h1, h2, hp, hq, ha, hb]

theorem timeSpec2_none {o : Ora} {fmt noa : String} :
    timeSpec2 o fmt noa = none ↔ (noa ≠ "" → ∃ t, o.timeParse fmt noa = some t ∧ o.now < t) := by
  unfold timeSpec2
  by_cases h2 : noa = ""
  · simp [h2]
  · cases hq : o.timeParse fmt noa with
    | none => simp [h2]
    | some u =>
      have hb : (u = o.now ∨ u < o.now) ↔ ¬ o.now < u := by omega
      simp [h2, hb]

theorem timeSpec_none {o : Ora} {fmt nb noa : String} : timeSpec o fmt nb noa = none ↔ TimeOK o fmt nb noa := by
  unfold TimeOK timeSpec
  by_cases h1 : nb = ""
  · simp [h1, timeSpec2_none]
  · cases hp : o.timeParse fmt nb with
    | none => simp [h1]
    | some t =>
      have ha : t > o.now ↔ ¬ t ≤ o.now := by omega
      by_cases hle : t ≤ o.now <;> simp [h1, ha, timeSpec2_none, hle]

theorem timeCheck_ok (o : Ora) (nb noa fmt : String) :
    checkIfRequestTimeIsStillValid o nb noa fmt = .ok none ↔ TimeOK o fmt nb noa := by
  rw [timeCheck_eq, ← timeSpec_none, Res.ok.injEq]

theorem timeCheck_noPanic (o : Ora) (nb noa fmt : String) : checkIfRequestTimeIsStillValid o nb noa fmt ≠ .panic := by
  rw [timeCheck_eq]; nofun

/-- Destination absent, or one of the SingleSignOnService locations of the IdP metadata in effect -/
def DestOK (idp : Option md_IDPSSODescriptorType) (req : samlp_AuthnRequestType) : Prop :=
  req.Destination = "" ∨ ∃ md e, idp = some md ∧ e ∈ md.SingleSignOnService ∧ req.Destination = e.Location

/-- what `verifyRequestDestinationOfAuthRequest` returns: nothing to compare, a nil dereference when there is no IdP
    metadata to compare with, or the outcome of the search -/
def destSpec (idp : Option md_IDPSSODescriptorType) (req : samlp_AuthnRequestType) : Res Err :=
  if req.Destination = "" then .ok none else
  match idp with
  | none => .panic
  | some md =>
    .ok (if md.SingleSignOnService.any (fun e => req.Destination == e.Location) then none
         else some "destination of request is unknown")

theorem dest_eq (o : Ora) (idp : Option md_IDPSSODescriptorType) (req : samlp_AuthnRequestType) :
    verifyRequestDestinationOfAuthRequest o idp (some req) = destSpec idp req := by
  cases idp with
  | none =>
    simp only [verifyRequestDestinationOfAuthRequest, verifyRequestDestinationOfAuthRequest.body, gosem, destSpec]
    simp only [Bool.cond_eq_ite]
    by_cases hd : req.Destination = "" <;> simp [hd, gosem]
  | some md =>
    simp only [verifyRequestDestinationOfAuthRequest, verifyRequestDestinationOfAuthRequest.body, gosem, destSpec]
    rw [goFor_brk_any (I := fun s => s.request = some req) (p := fun e => req.Destination == e.Location)
      (f := fun s => { s with foundEndpoint := true }) (by intro x s hs; simp only [hs, gosem]) _ _ rfl]
    simp only [Bool.cond_eq_ite]
    by_cases hd : req.Destination = ""
    · simp [hd]
    · cases md.SingleSignOnService.any (fun e => req.Destination == e.Location) <;> simp [hd, gosem]

theorem dest_iff (o : Ora) (idp : Option md_IDPSSODescriptorType) (req : samlp_AuthnRequestType) :
    verifyRequestDestinationOfAuthRequest o idp (some req) = .ok none ↔ DestOK idp req := by
  rw [dest_eq]
  unfold destSpec DestOK
  by_cases hd : req.Destination = ""
  · simp [hd]
  · cases idp <;> simp [hd]

/-- the conjunction `checkRequestRequiredContent` enforces -/
structure ContentOK (o : Ora) (idp : Option md_IDPSSODescriptorType) (sp : serviceprovider_ServiceProvider)
    (req : samlp_AuthnRequestType) : Prop where
  time : ∀ c, req.Conditions = some c → TimeOK o defaultTimeFormat c.NotBefore c.NotOnOrAfter
  id : req.Id ≠ ""
  version : req.Version ≠ ""
  issuer : ∃ iss m, req.Issuer = some iss ∧ iss.Text ≠ "" ∧ sp.Metadata = some m ∧ iss.Text = m.EntityID
  dest : DestOK idp req

theorem getEntityID_eq (o : Ora) (sp : serviceprovider_ServiceProvider) :
    ServiceProvider_GetEntityID o (some sp) = match sp.Metadata with
      | none => .panic
      | some m => .ok m.EntityID := by
  cases hm : sp.Metadata <;> simp [ServiceProvider_GetEntityID, ServiceProvider_GetEntityID.body, gosem, hm]

/-- the error of the validity window, which is looked at only when the Conditions carry one of its bounds -/
def windowSpec (o : Ora) (req : samlp_AuthnRequestType) : Err :=
  match req.Conditions with
  | none => none
  | some c =>
    if c.NotOnOrAfter != "" || c.NotBefore != "" then timeSpec o defaultTimeFormat c.NotBefore c.NotOnOrAfter else none

/-- what `checkRequestRequiredContent` does for a request and a service provider that are there: the checks in source
    order, with the two nil dereferences (no Issuer element, no registered metadata) where the code has them -/
def contentSpec (o : Ora) (idp : Option md_IDPSSODescriptorType) (sp : serviceprovider_ServiceProvider)
    (req : samlp_AuthnRequestType) : Res Err :=
  match windowSpec o req with
  | some e => .ok (some e)
  | none =>
    if req.Id = "" then .ok (some "ID is missing in request") else
    if req.Version = "" then .ok (some "version is missing in request") else
    match req.Issuer with
    | none => .panic
    | some iss =>
      if iss.Text = "" then .ok (some "issuer is missing in request") else
      match sp.Metadata with
      | none => .panic
      | some m =>
        if iss.Text ≠ m.EntityID then .ok (some "issuer in request not equal entityID of service provider")
        else verifyRequestDestinationOfAuthRequest o idp (some req)

theorem content_eq (o : Ora) (idp : Option md_IDPSSODescriptorType) (sp : serviceprovider_ServiceProvider)
    (req : samlp_AuthnRequestType) :
    checkRequestRequiredContent o idp (some sp) (some req) = contentSpec o idp sp req := by
  simp only [checkRequestRequiredContent, checkRequestRequiredContent.body, gosem, timeCheck_eq, getEntityID_eq,
    contentSpec, windowSpec, defaultTimeFormat]
  simp only [Bool.cond_eq_ite]
  -- both sides are now trees of `if`s over the same atoms; the code tests `err != nil` where the specification matches.
  -- The destination check is split only on the paths that reach it (`simp` leaves a goal there and nowhere else)
  cases req.Issuer <;> cases sp.Metadata <;> cases req.Conditions with
    | none => simp [gosem] <;> rcases verifyRequestDestinationOfAuthRequest o idp (some req) with (_ | _) | _ <;> simp [gosem]
    | some c =>
      cases hw : c.NotOnOrAfter != "" || c.NotBefore != "" <;>
        cases ht : timeSpec o "2006-01-02T15:04:05.999999Z" c.NotBefore c.NotOnOrAfter <;> simp [gosem, hw, ht] <;>
        rcases verifyRequestDestinationOfAuthRequest o idp (some req) with (_ | _) | _ <;> simp [gosem]

theorem windowSpec_none (o : Ora) (req : samlp_AuthnRequestType) :
    windowSpec o req = none ↔ ∀ c, req.Conditions = some c → TimeOK o defaultTimeFormat c.NotBefore c.NotOnOrAfter := by
  unfold windowSpec
  cases req.Conditions with
  | none => simp
  | some c =>
    by_cases hne : (c.NotOnOrAfter != "" || c.NotBefore != "") = true
    · simp [hne, timeSpec_none]
    · have h : c.NotOnOrAfter = "" ∧ c.NotBefore = "" := by simpa using hne
      simp [h.1, h.2, TimeOK]

theorem content_iff (o : Ora) (idp : Option md_IDPSSODescriptorType) (sp : serviceprovider_ServiceProvider)
    (req : samlp_AuthnRequestType) :
    checkRequestRequiredContent o idp (some sp) (some req) = .ok none ↔ ContentOK o idp sp req := by
  rw [content_eq]
  unfold contentSpec
  constructor
  · intro h
    -- every leaf but the last returns an error or panics
    cases hw : windowSpec o req with
    | some e => rw [hw] at h; cases h
    | none =>
    cases hiss : req.Issuer with
    | none => simp [hw, hiss, ite_ok_some_eq_ok_none] at h
    | some iss =>
    cases hm : sp.Metadata with
    | none => simp [hw, hiss, hm, ite_ok_some_eq_ok_none] at h
    | some m =>
    simp only [hw, hiss, hm, ite_ok_some_eq_ok_none] at h
    obtain ⟨hid, hv, ht, heq, hd⟩ := h
    exact ⟨(windowSpec_none o req).mp hw, hid, hv, ⟨iss, m, hiss, ht, hm, Decidable.not_not.mp heq⟩, (dest_iff o idp req).mp hd⟩
  · rintro ⟨ht, hid, hv, ⟨iss, m, hiss, hne, hm, heq⟩, hd⟩
    simp [(windowSpec_none o req).mpr ht, hid, hv, hiss, hm, heq, heq ▸ hne, (dest_iff o idp req).mpr hd]

end FnLemmas
