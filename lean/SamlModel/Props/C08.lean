import SamlModel.Props.SsoLemmas
/-!
  C08 — One SSO request, one outcome; rejected requests leave no trace.
  The `Result` of the SSO model holds at most one reply and at most one persist by construction
  (that the handler performs exactly one of each is part of `SsoGen.sso_handler_refines`); the theorems
  say which combinations occur.
-/
namespace C08
open Go Gen Sso Consts

/-- the possible outcomes of one SSO request -/
inductive Shape : Result → Prop
  | http : Shape { out := .httpError 500 }
  | panic : Shape { out := .panic }
  | rejected (n : Nat) (st a b r irt : String) : n < 15 → st ≠ statusSuccess → Shape { out := .failed n st a b r irt }
  | persistFailed (a b r irt : String) (p : Persist) : p.ok = false →
      Shape { out := .failed 15 statusResponder a b r irt, persist := some p }
  | login (id : String) (p : Persist) : p.ok = true → Shape { out := .login id, persist := some p }

/-- `Shape` keeps of `Sso.Ends` what can be seen from outside -/
theorem shape_of_ends {o : Ora} {i : In} {r : Result} (h : Ends o i r) : Shape r := by
  cases h with
  | http => exact .http
  | early n relay irt hn => exact .rejected _ _ _ _ _ _ (by omega) requestDenied_ne_success
  | panic => exact .panic
  | late n st f v hn hst => exact .rejected _ _ _ _ _ _ hn hst
  | persisted f v hv =>
    cases hc : i.createOk with
    | false => exact .persistFailed _ _ _ _ _ hc
    | true => exact .login _ _ hc

/-- **C08.** Handling one SSO request ends in exactly one of: HTTP error; a single failed Response with a
    non-Success status and *nothing persisted*; a failed Response with status Responder after the one
    persist attempt failed; or the login redirect after exactly one successful persist. -/
theorem C08_one_outcome (o : Ora) (i : In) : Shape (sso o i) :=
  shape_of_ends (sso_ends o i)

/-- persisted successfully ⇔ the reply is the login redirect, for the identifier storage returned -/
theorem C08_login_iff_persisted (o : Ora) (i : In) :
    (∃ p, (sso o i).persist = some p ∧ p.ok = true) ↔ (sso o i).out = .login i.createdID := by
  constructor
  · rintro ⟨p, hp, hok⟩
    obtain ⟨_, _, _, _, _, _, _, _, _, rfl, hout⟩ := persisted_inv hp
    rw [hout, show i.createOk = true from hok, if_pos rfl]
  · intro h
    obtain ⟨_, _, _, _, _, _, a⟩ := accepted_of_login h
    exact ⟨_, a.hpersist, rfl⟩

/-- a request that cannot be answered — the selected consumer binding is neither POST nor Redirect — is never persisted -/
theorem C08_unanswerable_not_persisted (o : Ora) (i : In) (p : Persist) (h : (sso o i).persist = some p) :
    p.binding = redirectBinding ∨ p.binding = postBinding := by
  obtain ⟨_, _, _, _, _, _, _, _, hv, rfl, _⟩ := persisted_inv h
  exact hv.h13

/-- nothing is persisted before every validation step has passed: a reply produced by steps 1–14 comes with no persist -/
theorem C08_rejected_leaves_no_trace (o : Ora) (i : In) (n : Nat) (st a b r irt : String)
    (h : (sso o i).out = .failed n st a b r irt) (hn : n ≠ 15) : (sso o i).persist = none := by
  have hs := C08_one_outcome o i
  generalize hr : sso o i = res at hs h
  cases hs with
  | http => rfl
  | panic => rfl
  | rejected => rfl
  | persistFailed => cases h; exact absurd rfl hn
  | login => cases h

theorem C08_source_current : True ∧ Consts.current = true :=
  ⟨trivial, Consts.current_true⟩

end C08
