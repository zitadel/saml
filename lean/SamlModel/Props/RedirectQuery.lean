import SamlModel.Lemmas.Redirect
import SamlModel.Generated.Funcs
import SamlModel.Lemmas.GoSem
/-!
  The tie between Lemmas/Redirect.lean and the source: the translated `BuildRedirectQuery` (redirect.go) assembles
  `Redirect.buildQ`.  (Lemmas/Redirect.lean itself stays free of the simp set `gosem`, whose attribute module the compiled
  driver must not import.)
-/
namespace Redirect
open Go Gen Lib Lib.Url

/-- one optional parameter appended to the query, as the translated code writes it -/
theorem append_part {q lit : String} {k : List Char} {v : String} (hk : lit.toList = '&' :: k ++ ['=']) :
    (if (v != "") = true then q ++ (lit ++ Lib.queryEscape v) else q).toList = q.toList ++ part k v := by
  by_cases h : v = "" <;> simp [part, h, String.toList_append, queryEscape_toList, hk]

/-- the generated `BuildRedirectQuery` assembles `Redirect.buildQ`, the query the theorems of Lemmas/Redirect.lean are about -/
theorem BuildRedirectQuery_eq (o : Ora) (resp relay alg sig : String) :
    BuildRedirectQuery o resp relay alg sig = .ok (String.ofList (buildQ resp relay alg sig)) := by
  simp only [BuildRedirectQuery, BuildRedirectQuery.body, gosem, cond_next, Bool.apply_cond BuildRedirectQuery.Frame.query,
    Bool.apply_cond BuildRedirectQuery.Frame.sig', Bool.apply_cond BuildRedirectQuery.Frame.sigAlg, Bool.cond_self]
  simp only [Bool.cond_eq_ite]
  congr 1
  apply String.toList_inj.mp
  simp only [append_part k2, append_part k3, append_part k4,
    String.toList_append, queryEscape_toList, k1, String.toList_ofList, buildQ]
  simp [List.append_assoc]

end Redirect
