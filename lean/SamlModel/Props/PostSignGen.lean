import SamlModel.Generated.Funcs
import SamlModel.Lemmas.GoSem
/-!
  Props.PostSignGen — `createPostSignature` (post.go) is *translated* (standalone; `signature.GetSigner` and
  `signature.Create` - the enveloped XML signature of the third-party signer - are typed oracles; the response is an
  in-out parameter: the function returns it with the signature set).
-/
namespace C04
open Go Gen Lib

theorem createPostSignature_eq (o : Ora) (m : samlp_ResponseType) (key : Option KeyRec) (cert : Lib.Bytes) (alg : String) :
    createPostSignature o (some m) key cert alg = .ok (
      match o.f_GetSigner cert key alg with
      | (_, some e) => (some e, some m)
      | (signer, none) =>
        match o.f_Create_AssertionType signer m.Assertion with
        | (_, some e) => (some e, some m)
        | (sig, none) => (none, some { m with Assertion := { m.Assertion with Signature := sig } })) := by
  rcases hs : o.f_GetSigner cert key alg with ⟨signer, e1⟩
  rcases hc : o.f_Create_AssertionType signer m.Assertion with ⟨sig, e2⟩
  simp only [createPostSignature, createPostSignature.body, gosem, hs, hc]
  simp only [Bool.cond_eq_ite]
  cases e1 <;> cases e2 <;> simp

/-- **what the regenerated `createPostSignature` signs and where it puts the signature**: on success the signer was
    built from exactly the certificate, key and algorithm handed in, the signature is the one `signature.Create` made
    over the assertion *as handed in*, it is stored in that assertion's `Signature` and nothing else of the response
    changes -/
theorem createPostSignature_signs (o : Ora) (m : samlp_ResponseType) (key : Option KeyRec) (cert : Lib.Bytes) (alg : String)
    (r' : Option samlp_ResponseType) (h : createPostSignature o (some m) key cert alg = .ok (none, r')) :
    ∃ signer sig, o.f_GetSigner cert key alg = (signer, none) ∧ o.f_Create_AssertionType signer m.Assertion = (sig, none) ∧
      r' = some { m with Assertion := { m.Assertion with Signature := sig } } := by
  rw [createPostSignature_eq, Res.ok.injEq] at h
  split at h
  next => cases h
  next signer hs =>
  split at h
  next => cases h
  next sig hc =>
  cases h
  exact ⟨signer, sig, hs, hc, rfl⟩

/-- a failing signer or signature leaves the response as it was (no half-signed message) and never panics -/
theorem createPostSignature_failure (o : Ora) (m : samlp_ResponseType) (key : Option KeyRec) (cert : Lib.Bytes) (alg : String) :
    createPostSignature o (some m) key cert alg ≠ .panic ∧
    ∀ e r', createPostSignature o (some m) key cert alg = .ok (some e, r') → r' = some m := by
  rw [createPostSignature_eq]
  refine ⟨nofun, fun e r' h => ?_⟩
  rw [Res.ok.injEq] at h
  split at h
  · cases h; rfl
  split at h <;> cases h
  rfl

end C04
