import SamlModel.Props.SsoLemmas
import SamlModel.Props.FnLemmas
import SamlModel.Props.C16
import SamlModel.Props.C13
import SamlModel.Props.C12
/-!
  C07 — Conformant requests from registered service providers are accepted (converse of C06 / C13 / C12 on
  the same handler models).  XML decoding is an oracle: "conformant" starts from the decoded request.
-/
namespace C07
open Go Gen FnLemmas Consts

theorem certStep_no_keyinfo (o : Ora) (sig : Option xml_dsig_SignatureType) (md : Option md_EntityDescriptorType)
    (h : ∀ s, sig = some s → s.KeyInfo = none) :
    Sso.condStep (certificateCheckNecessary o sig md) (checkCertificate o sig md) = .ok none := by
  rw [certNec_eq]
  cases sig with
  | none => rfl
  | some s => simp [h s rfl, Sso.condStep]

/-- what a conformant AuthnRequest looks like to the SSO handler -/
structure ConformantAuthn (o : Ora) (i : Sso.In) (form : Sso.Form) (req : samlp_AuthnRequestType) (iss : saml_NameIDType)
    (sp : serviceprovider_ServiceProvider) (m : md_EntityDescriptorType) (d : md_SPSSODescriptorType) (idp : md_IDPSSODescriptorType) : Prop where
  hmeta : i.metaErr = false
  hidp : i.idpMeta = some idp
  hform : i.form = some form
  hreq : form.AuthRequest ≠ ""
  hdec : i.decoded = some req
  hiss : req.Issuer = some iss
  hsp : i.sp = some sp
  hm : sp.Metadata = some m
  hd : m.SPSSODescriptor = some d
  /-- KeyInfo absent (a KeyInfo naming the registered certificate in any layout is covered by the generators) -/
  hki : ∀ s, req.Signature = some s → s.KeyInfo = none
  /-- the signature is carried the way the binding in use defines it, and verifies when present; absent only where not required -/
  hsig :
    (form.Binding = redirectBinding ∧ embProvided req.Signature = false ∧
      ((form.Sig = "" ∧ form.SigAlg = "" ∧ spRequires sp.Metadata = false ∧ idpRequires i.idpMeta = false) ∨
       (form.Sig ≠ "" ∧ form.SigAlg ≠ "" ∧ o.m_ValidateRedirectSignature (some sp) form.AuthRequest form.RelayState form.SigAlg form.Sig = none))) ∨
    (form.Binding = postBinding ∧ form.Sig = "" ∧ form.SigAlg = "" ∧
      ((embProvided req.Signature = false ∧ spRequires sp.Metadata = false ∧ idpRequires i.idpMeta = false) ∨
       (∃ data, Lib.b64decode form.AuthRequest = some data ∧ o.m_ValidatePostSignature (some sp) (Lib.bytesToString data) = none)))
  /-- a usable consumer endpoint: every registered entry has a location and uses POST or Redirect -/
  hacsne : d.AssertionConsumerService ≠ []
  hacs : ∀ e ∈ d.AssertionConsumerService, e.Location ≠ "" ∧ (e.Binding = redirectBinding ∨ e.Binding = postBinding)
  hid : req.Id ≠ ""
  hver : req.Version ≠ ""
  hissne : iss.Text ≠ ""
  hisseq : iss.Text = m.EntityID
  hdest : req.Destination = "" ∨ ∃ e, e ∈ idp.SingleSignOnService ∧ req.Destination = e.Location
  htime : ∀ c, req.Conditions = some c → TimeOK o defaultTimeFormat c.NotBefore c.NotOnOrAfter
  hcreate : i.createOk = true

/-- **C07 (AuthnRequest).** A conformant request from a registered service provider is accepted: persisted and sent to login. -/
theorem C07_authn (o : Ora) (i : Sso.In) (form : Sso.Form) (req : samlp_AuthnRequestType) (iss : saml_NameIDType)
    (sp : serviceprovider_ServiceProvider) (m : md_EntityDescriptorType) (d : md_SPSSODescriptorType) (idp : md_IDPSSODescriptorType)
    (c : ConformantAuthn o i form req iss sp m d idp) : (Sso.sso o i).out = .login i.createdID := by
  have hsigalg : ¬ (form.SigAlg ≠ "" ∧ form.Sig = "") := by
    rcases c.hsig with ⟨_, _, ⟨h1, h2, _⟩ | ⟨h1, h2, _⟩⟩ | ⟨_, h1, h2, _⟩
    · intro h; exact h.1 h2
    · intro h; exact h1 h.2
    · intro h; exact h.1 h2
  have f : Sso.Found i form req iss sp := ⟨c.hmeta, c.hform, c.hreq, hsigalg, c.hdec, c.hiss, c.hsp⟩
  have h7 : Sso.condStep (signatureRedirectVerificationNecessary o i.idpMeta sp.Metadata form.Sig form.Binding)
      (verifyRedirectSignature o form.AuthRequest form.RelayState form.Sig form.SigAlg (some sp)) = .ok none := by
    refine Sso.redirectStep_ok.mpr fun hb hn => ?_
    rcases c.hsig with ⟨_, _, ⟨h1, _, h3, h4⟩ | ⟨h1, h2, h3⟩⟩ | ⟨hb', _⟩
    · simp [h1, h3, h4] at hn
    · exact ⟨c.hreq, h1, h2, h3⟩
    · exact absurd (hb.symm.trans hb') redirect_ne_post
  have h8 : Sso.condStep (signaturePostVerificationNecessary o i.idpMeta sp.Metadata req.Signature form.Binding)
      (verifyPostSignature o form.AuthRequest (some sp)) = .ok none := by
    refine Sso.postStep_ok.mpr fun hb hn => ?_
    rcases c.hsig with ⟨hb', _⟩ | ⟨_, _, _, ⟨h1, h3, h4⟩ | hv⟩
    · exact absurd (hb'.symm.trans hb) redirect_ne_post
    · simp [h1, h3, h4] at hn
    · exact hv
  have h9 : ¬ (form.Binding = postBinding ∧ form.Sig ≠ "") ∧
      ¬ (form.Binding = redirectBinding ∧ embProvided req.Signature = true) := by
    rcases c.hsig with ⟨hb, he, _⟩ | ⟨hb, hs, _⟩
    · exact ⟨fun h => redirect_ne_post (hb.symm.trans h.1), fun h => by simp [he] at h⟩
    · exact ⟨fun h => h.2 hs, fun h => redirect_ne_post (h.1.symm.trans hb)⟩
  obtain ⟨sel, hsel, _⟩ := C16.C16_selection_meets_spec o d.AssertionConsumerService req.ProtocolBinding
  have v : Sso.Verified o i form req sp d.AssertionConsumerService sel :=
    ⟨certStep_no_keyinfo o req.Signature sp.Metadata c.hki, h7, h8, ⟨_, signaturePostProvided_eq o req.Signature, h9⟩,
      Sso.spAcs_some c.hm c.hd, hsel⟩
  have hselOK : sel.1 ≠ "" ∧ (sel.2 = redirectBinding ∨ sel.2 = postBinding) := by
    rcases C16.C16_from_one_entry o d.AssertionConsumerService req.ProtocolBinding with ⟨hn, _⟩ | ⟨e, he, hs⟩
    · exact absurd hn c.hacsne
    · obtain rfl := Res.ok.inj (hsel.symm.trans hs)
      exact c.hacs e he
  have h14 : checkRequestRequiredContent o i.idpMeta (some sp) (some req) = .ok none :=
    c.hidp ▸ (content_iff o (some idp) sp req).mpr ⟨c.htime, c.hid, c.hver, ⟨iss, m, c.hiss, c.hissne, c.hm, c.hisseq⟩,
      c.hdest.imp id fun ⟨e, he, hde⟩ => ⟨idp, e, rfl, he, hde⟩⟩
  rw [Sso.sso_of_found f, Sso.afterSp_of_verified v, Sso.afterSel_of_valid ⟨hselOK.1, hselOK.2, h14⟩, c.hcreate]
  rfl

/-- **C07 (LogoutRequest).** A request that decodes, names a registered issuer and lies in its validity window is
    answered with Success (from `C13_success_iff`). -/
theorem C07_logout (o : Ora) (i : Logout.In) (req : samlp_LogoutRequestType) (sp : serviceprovider_ServiceProvider)
    (hsp : ∀ sp, i.sp = some sp → C13.SpWF sp) (hv : C13.Valid o i req sp) :
    ∃ d m, Logout.logout o i = .reply d m ∧ m.status = statusSuccess :=
  (C13.C13_success_iff o i hsp).mpr ⟨req, sp, hv⟩

/-- **C07 (AttributeQuery).** A query from a registered requester — Issuer and subject present, unsigned or with a
    verifying signature, no KeyInfo, Destination absent or the advertised attribute-service location — is answered,
    as long as storage and signing work. -/
theorem C07_attrq (o : Ora) (i : AttrQuery.In) (q : samlp_AttributeQueryType) (iss subj : saml_NameIDType)
    (sp : serviceprovider_ServiceProvider) (m : md_EntityDescriptorType) (aa : md_AttributeAuthorityDescriptorType)
    (attrs : provider_Attributes) (cert : Lib.Bytes) (key : Option KeyRec)
    (hme : i.metaErr = false) (hbe : i.bodyErr = false) (hdec : i.decoded = some (some q)) (hiss : q.Issuer = some iss)
    (hsp : i.sp = some sp) (hm : sp.Metadata = some m) (haa : i.aaMeta = some aa)
    (hki : ∀ s, q.Signature = some s → s.KeyInfo = none)
    (hsig : embProvided q.Signature = true → i.sigOk = true)
    (hdest : q.Destination = "" ∨ ∃ e, e ∈ aa.AttributeService ∧ q.Destination = e.Location)
    (hsubj : q.Subject.NameID = some subj) (hui : i.userinfo = some attrs)
    (hkey : getResponseCert o () = .ok (cert, key, none)) (hsign : i.signOk = true) :
    ∃ a, AttrQuery.attrQuery o i = .answer a := by
  have h4 := certStep_no_keyinfo o q.Signature sp.Metadata hki
  have h6 : verifyRequestDestinationOfAttrQuery o (some aa) (some q) = .ok none :=
    (C12.destAq_iff o _ q).mpr (hdest.imp id fun ⟨e, he, hde⟩ => ⟨aa, e, rfl, he, hde⟩)
  have h5 : (embProvided q.Signature && !i.sigOk) = false := by
    cases he : embProvided q.Signature with
    | false => simp
    | true => simp [hsig he]
  -- walk the model forwards: each hypothesis decides one step, in source order
  unfold AttrQuery.attrQuery
  simp only [hme, hbe, Bool.false_eq_true, if_false, hdec, hiss, hsp, h4, Option.isSome_none, signaturePostProvided_eq, h5, haa, h6,
    hsubj, hui]
  rw [C03.getSAML_eq, C03.getNameID_eq, getEntityID_eq, hm]
  simp [hkey, hsign]

end C07
