import SamlModel.Generated.Checker
import SamlModel.Model.Checker
import SamlModel.ChainSem
/-!
  Props.CheckerGen — checker.go is *translated* (go2lean `checkergen.go`: the methods of `Checker`, polymorphic in the
  client state, regenerated on every run into `Generated/Checker.lean`).  The theorems below prove that every generated
  function is the corresponding function of `Model.Checker` - the hand translation all chain theorems (C20, the handler
  refinements through `ChainSem`) are stated over - so the hand translation is tied to the source by proof, not by a
  fingerprint: `CheckFailed` is `Checker.checkFailed`, each `WithXxx` is `Checker.withXxx` (a `func() error` of the
  client enters the model as "did it produce an error").
-/
namespace CheckerGen
open Go

variable {σ : Type}

theorem translated : Gen.Chk.translated = true := rfl

theorem addStep_eq (c : Checker.Checker σ) (f : Checker.M σ Bool) : Gen.Chk.addStep c f = Checker.addStep c f := rfl

/-- the loop of `CheckFailed` is `Checker.runSteps` -/
theorem checkFailed_eq (c : Checker.Checker σ) : Gen.Chk.checkFailed c = Checker.checkFailed c := by
  funext s
  unfold Gen.Chk.checkFailed Checker.checkFailed
  generalize c.steps = fs
  induction fs generalizing s with
  | nil => rfl
  | cons f fs ih =>
    simp only [Go.forM, Checker.runSteps]
    rcases hf : f s with ⟨b, s'⟩
    cases b with
    | true => simp
    | false => simpa using ih s'

/-- whether a `func() error` of the client produced an error -/
def errBool (logic : Checker.M σ Err) : Checker.M σ Bool := fun s => ((logic s).1.isSome, (logic s).2)

theorem withValueNotEmptyCheck_eq (c : Checker.Checker σ) (n : String) (value : Checker.M σ String) (ef : Checker.M σ Unit) :
    Gen.Chk.withValueNotEmptyCheck c n value ef = Checker.withValueNotEmptyCheck c value ef := rfl

theorem anyEmpty_loop (ef : Checker.M σ Unit) (vs : List String) (s : σ) :
    (match Go.forM vs s (fun v s => if (v == "") then (let (_, s) := ef s; LoopR.ret true s) else LoopR.next s) with
      | .ret r s => (r, s)
      | .next s => (false, s)) =
    (if Checker.anyEmpty vs then (let (_, s) := ef s; (true, s)) else (false, s)) := by
  induction vs with
  | nil => rfl
  | cons v vs ih =>
    by_cases h : (v == "") = true
    · simp [Go.forM, Checker.anyEmpty, h]
    · simp only [Go.forM, Checker.anyEmpty, h]
      simpa using ih

theorem withValuesNotEmptyCheck_eq (c : Checker.Checker σ) (values : Checker.M σ (List String)) (ef : Checker.M σ Unit) :
    Gen.Chk.withValuesNotEmptyCheck c values ef = Checker.withValuesNotEmptyCheck c values ef := by
  unfold Gen.Chk.withValuesNotEmptyCheck Checker.withValuesNotEmptyCheck
  congr 1
  funext s
  exact anyEmpty_loop ef (values s).1 (values s).2

theorem withValueLengthCheck_eq (c : Checker.Checker σ) (n : String) (value : Checker.M σ String) (mn mx : Int) (ef : Checker.M σ Unit) :
    Gen.Chk.withValueLengthCheck c n value mn mx ef = Checker.withValueLengthCheck c value mn mx ef := by
  unfold Gen.Chk.withValueLengthCheck Checker.withValueLengthCheck
  -- the generated code tests `decide p`, the model `p`; otherwise the two differ only in how the `let`s nest
  simp only [decide_eq_true_eq]
  rfl

theorem withValueEqualsCheck_eq (c : Checker.Checker σ) (n : String) (value equal : Checker.M σ String) (ef : Checker.M σ Unit) :
    Gen.Chk.withValueEqualsCheck c n value equal ef = Checker.withValueEqualsCheck c value equal ef := rfl

theorem withConditionalValueNotEmpty_eq (c : Checker.Checker σ) (cond : Checker.M σ Bool) (n : String) (value : Checker.M σ String) (ef : Checker.M σ Unit) :
    Gen.Chk.withConditionalValueNotEmpty c cond n value ef = Checker.withConditionalValueNotEmpty c cond value ef := rfl

theorem withConditionalLogicStep_eq (c : Checker.Checker σ) (cond : Checker.M σ Bool) (logic : Checker.M σ Err) (ef : Checker.M σ Unit) :
    Gen.Chk.withConditionalLogicStep c cond logic ef = Checker.withConditionalLogicStep c cond (errBool logic) ef := rfl

theorem withLogicStep_eq (c : Checker.Checker σ) (logic : Checker.M σ Err) (ef : Checker.M σ Unit) :
    Gen.Chk.withLogicStep c logic ef = Checker.withLogicStep c (errBool logic) ef := rfl

theorem withValueStep_eq (c : Checker.Checker σ) (logic : Checker.M σ Unit) :
    Gen.Chk.withValueStep c logic = Checker.withValueStep c logic := rfl

/-- **a chain step of a translated handler is registered by the regenerated checker.go**: what `ChainSem.Step.register`
    does with `Model.Checker` is what the generated `WithXxx` method does on the (lifted) closures -/
theorem register_is_generated (c : Checker.Checker (Option σ)) (st : Step σ) :
    Step.register c st =
      match st with
      | .withValueNotEmptyCheck v e => Gen.Chk.withValueNotEmptyCheck c "" (Clo.lift v) (Clo.lift e)
      | .withValuesNotEmptyCheck v e => Gen.Chk.withValuesNotEmptyCheck c (Clo.lift v) (Clo.lift e)
      | .withValueLengthCheck v mn mx e => Gen.Chk.withValueLengthCheck c "" (Clo.lift v) mn mx (Clo.lift e)
      | .withValueEqualsCheck v q e => Gen.Chk.withValueEqualsCheck c "" (Clo.lift v) (Clo.lift q) (Clo.lift e)
      | .withConditionalValueNotEmpty cnd v e => Gen.Chk.withConditionalValueNotEmpty c (Clo.lift cnd) "" (Clo.lift v) (Clo.lift e)
      | .withConditionalLogicStep cnd l e => Gen.Chk.withConditionalLogicStep c (Clo.lift cnd) (Clo.lift l) (Clo.lift e)
      | .withLogicStep l e => Gen.Chk.withLogicStep c (Clo.lift l) (Clo.lift e)
      | .withValueStep l => Gen.Chk.withValueStep c (Clo.lift l) := by
  cases st <;>
    simp only [Step.register, withValueNotEmptyCheck_eq, withValuesNotEmptyCheck_eq, withValueLengthCheck_eq, withValueEqualsCheck_eq,
      withConditionalValueNotEmpty_eq, withConditionalLogicStep_eq, withLogicStep_eq, withValueStep_eq,
      show ∀ l : Clo σ Err, Clo.liftErr l = errBool (Clo.lift l) from liftErr_eq]

/-- ... and `CheckFailed()` on a handler frame runs the regenerated `CheckFailed` -/
theorem runChain_is_generated (steps : List (Step σ)) (s : σ) :
    runChain steps s =
      match Gen.Chk.checkFailed (buildChain steps) (some s) with
      | (_, none) => .panic
      | (b, some s') => .ok (b, s') := by
  rw [checkFailed_eq]; rfl

end CheckerGen
