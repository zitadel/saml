import SamlModel.Props.C04
/-!
  Props.RedirectSignGen — `createRedirectSignature` (redirect.go) is *translated* (standalone; `xml.Marshal`,
  `xml.DeflateAndBase64`, `signature.ParseTlsKeyPair`, `GetSigningContext` and `CreateRedirect` - the RSA signature - are
  typed oracles).  `createRedirectSignature_signs`: whenever the regenerated function returns a signature, it is the
  base64 of what the signer produced over exactly `C04.signedOctets` - `BuildRedirectQuery` of the deflated message, the
  RelayState and the algorithm, without a Signature parameter - and the algorithm it returns is the configured one.
  With `C04_redirect_query` (the verifier recovers exactly these octets, the algorithm and the signature bytes from the
  query `sendBackResponse` sends) this closes the redirect-binding clause of C04 over regenerated code on both sides.
-/
namespace C04
open Go Gen Lib Consts

theorem createRedirectSignature_eq (o : Ora) (m : Option samlp_ResponseType) (key : Option KeyRec) (cert : Lib.Bytes)
    (alg relay : String) :
    createRedirectSignature o m key cert alg relay = .ok (
      match o.f_Marshal_ResponseType m with
      | (_, some e) => ("", "", some e)
      | (resp, none) =>
      match o.f_DeflateAndBase64 resp with
      | (_, some e) => ("", "", some e)
      | (data, none) =>
      match o.f_ParseTlsKeyPair cert key with
      | (_, some e) => ("", "", some e)
      | (tls, none) =>
      match o.f_GetSigningContext tls alg with
      | (_, some e) => ("", "", some e)
      | (ctx, none) =>
      match o.f_CreateRedirect ctx (String.ofList (Redirect.buildQ (Lib.bytesToString data) relay alg "")) with
      | (_, some e) => ("", "", some e)
      | (sig, none) => (Lib.b64encode sig, alg, none)) := by
  rcases hm : o.f_Marshal_ResponseType m with ⟨resp, e1⟩
  rcases hd : o.f_DeflateAndBase64 resp with ⟨data, e2⟩
  rcases ht : o.f_ParseTlsKeyPair cert key with ⟨tls, e3⟩
  rcases hc : o.f_GetSigningContext tls alg with ⟨ctx, e4⟩
  rcases hs : o.f_CreateRedirect ctx (String.ofList (Redirect.buildQ (Lib.bytesToString data) relay alg "")) with ⟨sig, e5⟩
  simp only [createRedirectSignature, createRedirectSignature.body, gosem, hm, hd, ht, hc, Redirect.BuildRedirectQuery_eq, hs]
  simp only [Bool.cond_eq_ite]
  cases e1 <;> cases e2 <;> cases e3 <;> cases e4 <;> cases e5 <;> simp [hd, hc, hs]

theorem createRedirectSignature_signs (o : Ora) (m : Option samlp_ResponseType) (key : Option KeyRec) (cert : Lib.Bytes)
    (alg relay sigB64 alg' : String)
    (h : createRedirectSignature o m key cert alg relay = .ok (sigB64, alg', none)) :
    ∃ resp data tls ctx signed sig,
      o.f_Marshal_ResponseType m = (resp, none) ∧ o.f_DeflateAndBase64 resp = (data, none) ∧
      o.f_ParseTlsKeyPair cert key = (tls, none) ∧ o.f_GetSigningContext tls alg = (ctx, none) ∧
      signedOctets o (Lib.bytesToString data) relay alg = .ok signed ∧
      o.f_CreateRedirect ctx signed = (sig, none) ∧ sigB64 = Lib.b64encode sig ∧ alg' = alg := by
  rw [createRedirectSignature_eq, Res.ok.injEq] at h
  split at h
  next => cases h
  next resp hm =>
  split at h
  next => cases h
  next data hd =>
  split at h
  next => cases h
  next tls ht =>
  split at h
  next => cases h
  next ctx hc =>
  split at h
  next => cases h
  next sig hs =>
  cases h
  exact ⟨resp, data, tls, ctx, _, sig, hm, hd, ht, hc, Redirect.BuildRedirectQuery_eq .., hs, rfl, rfl⟩

end C04
