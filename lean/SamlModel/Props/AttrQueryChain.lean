import SamlModel.Model.AttrQuery
import SamlModel.Lemmas.ChainWalk
/-!
  The attribute-query model as a chain of verdicts.

  `AttrQuery.attrQuery` is nested code; read step by step it is a list of verdicts (`Go.Verdict`, Lemmas/ChainWalk.lean)
  and the first step that does not pass decides (`attrQuery_eq_firstStop`).  That form is what the refinement proof of
  the regenerated handler walks along (`AttrQueryGen`).

  A step after the one that produced the query, the sender or the user record sees that value through `queryV` …
  `userV`; where the producing step has already ended the request a default stands in, which nothing looks at.
-/
namespace AttrQuery
open Go Gen Consts

/-- every failure of this handler is an HTTP 500 -/
abbrev refused : Out := .httpError 500

section
variable (o : Ora) (i : In)

def queryV : samlp_AttributeQueryType := i.decoded.join.getD default
def spV : serviceprovider_ServiceProvider := i.sp.getD default
def userV : provider_Attributes := i.userinfo.getD default

/-- the eight steps of the chain of `attributeQueryHandleFunc`, in source order -/
def chainVerdicts : List (Verdict Out) :=
  let q := queryV i; let sp := spV i; let user := userV i
  [ stopIf i.bodyErr refused,
    stopIf i.decoded.join.isNone refused,
    stopIf (q.Issuer.isNone || i.sp.isNone) refused,
    stopOnErr .panic (Sso.condStep (certificateCheckNecessary o q.Signature sp.Metadata) (checkCertificate o q.Signature sp.Metadata))
      refused,
    bindV .panic (signaturePostProvided o q.Signature) (fun provided => stopIf (provided && !i.sigOk) refused),
    stopOnErr .panic (verifyRequestDestinationOfAttrQuery o i.aaMeta (some q)) refused,
    -- the user lookup, and the three getters the answer is built from
    (bif q.Subject.NameID.isNone || i.userinfo.isNone then .stop refused else
      bindV .panic (ServiceProvider_GetEntityID o (some sp)) fun _ => bindV .panic (Attributes_GetSAML o (some user)) fun _ =>
        bindV .panic (Attributes_GetNameID o (some user)) fun _ => .pass),
    bindV .panic (getResponseCert o ()) (fun t => stopIf (t.2.2.isSome || !i.signOk) refused) ]

/-- the metadata lookup, which precedes the chain, and the chain -/
def verdicts : List (Verdict Out) := stopIf i.metaErr refused :: chainVerdicts o i

def replied : Out :=
  .answer { inResponseTo := (queryV i).Id, issuer := i.issuer, audience := (ServiceProvider_GetEntityID o (some (spV i))).get,
            nameID := (Attributes_GetNameID o (some (userV i))).get,
            attributes := filterAttrs (Attributes_GetSAML o (some (userV i))).get (queryV i).Attribute,
            lookedUp := ((queryV i).Subject.NameID.getD default).Text }

/-- **the attribute-query model is its chain of verdicts** -/
theorem attrQuery_eq_firstStop : attrQuery o i = firstStop (replied o i) (verdicts o i) := by
  simp only [verdicts, chainVerdicts, stopOnErr, firstStop_stopIf, firstStop_bindV, attrQuery, replied, queryV, spV, userV, refused]
  -- down the nested code, one scrutinee at a time; every branch that ends the request is closed by `rfl`
  obtain ⟨issuer, bodyErr, metaErr, aaMeta, decoded, sp, sigOk, userinfo, signOk⟩ := i
  cases metaErr
  case true => rfl
  cases bodyErr
  case true => rfl
  rcases decoded with _ | _ | q
  · rfl
  · rfl
  simp only [Option.join, Option.bind_some, id, Option.getD_some, Option.isNone_some, Bool.cond_eq_ite, Bool.false_eq_true, if_false]
  cases hi : q.Issuer with
  | none => rfl
  | some iss =>
  cases sp with
  | none => rfl
  | some sp =>
  simp only [Option.isNone_some, Bool.or_false, if_false, Bool.false_eq_true, Option.getD_some]
  cases Sso.condStep (certificateCheckNecessary o q.Signature sp.Metadata) (checkCertificate o q.Signature sp.Metadata) with
  | panic => rfl
  | ok e4 =>
  cases e4 with
  | some _ => rfl
  | none =>
  cases signaturePostProvided o q.Signature with
  | panic => rfl
  | ok provided =>
  cases hps : provided && !sigOk with
  | true => simp only [hps, if_true]
  | false =>
  simp only [hps, Option.isSome_none, Bool.false_eq_true, if_false]
  cases verifyRequestDestinationOfAttrQuery o aaMeta (some q) with
  | panic => rfl
  | ok e6 =>
  cases e6 with
  | some _ => rfl
  | none =>
  cases q.Subject.NameID with
  | none => rfl
  | some subj =>
  cases userinfo with
  | none => rfl
  | some attrs =>
  simp only [Option.isSome_none, Option.isNone_some, Bool.or_false, if_false, Bool.false_eq_true, Option.getD_some]
  cases ServiceProvider_GetEntityID o (some sp) <;> cases Attributes_GetSAML o (some attrs) <;>
    cases Attributes_GetNameID o (some attrs) <;> simp only [firstStop_bindV, firstStop]
  cases getResponseCert o () with
  | panic => rfl
  | ok t =>
    obtain ⟨cert, key, kerr⟩ := t
    cases kerr <;> cases signOk <;> rfl

end
end AttrQuery
