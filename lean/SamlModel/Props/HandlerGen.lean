import SamlModel.Props.CallbackGen
import SamlModel.Lemmas.GoSem
/-!
  Props.HandlerGen — `IdentityProvider.callbackHandleFunc` itself is *translated*: go2lean regenerates it from login.go on
  every run, the writes to the client (`http.Error`, `Response.sendBackResponse`) being collected as an effect trace
  (`Gen.Eff`) the generated function returns, the request (`ParseForm`, `Form.Get`), the storage (`AuthRequestByID`,
  `GetEntityIDByAppID`, the stored request's getters) and `GetEntityID` being typed oracles.

  `handler_refines`: for **every** behaviour of that environment in which a successful user lookup hands back the
  record (`hsome`), the generated handler panics where the hand-written callback model (`Callback.callback`) panics and
  otherwise writes exactly one reply, the reply of that model on the input read off from the same oracle answers: same
  HTTP status on the error paths, same delivery (consumer URL / binding / RelayState), same message
  field by field (the identifiers being the ones `NewID()` returned at the generated call sites), same signature style.
  The theorems about the callback model (C01, C02, C03, C04, C17) are thereby theorems about the regenerated handler;
  `sendBackResponse`, the rendering of one effect, is translated as well: `Callback.deliver` is what it does
  (`SendBack.sendBack_renders`, `SendBack.sendBack_delivers`).
-/
namespace HandlerGen
open Go Gen Consts CallbackGen Builders

variable (o : Ora) (cfg : provider_IdentityProviderConfig) (fmt : String) (exp : Int)

/-- the stored request as the handler reads it through `models.AuthRequestInt` -/
def recOf : Callback.Rec :=
  { reqID := o.m_GetAuthRequestID, relay := o.m_GetRelayState, binding := o.m_GetBindingType,
    acs := o.m_GetAccessConsumerServiceURL, appID := o.m_GetApplicationID, userID := o.m_GetUserID, done := o.m_Done }

def issuerOf : String := o.m_GetEntityID (idp cfg fmt exp)
def idOf : String := o.formGet "id"
def lookup : Unit × Err := o.m_AuthRequestByID (idOf o)
def entity : String × Err := o.m_GetEntityIDByAppID o.m_GetApplicationID

/-- the handler got as far as building the Success message (which draws the first two identifiers) -/
def built : Bool :=
  (lookup o).2.isNone && o.m_Done && (userinfo o).1.isNone &&
    (match getResponseCert o () with
     | .ok (_, _, none) => true
     | _ => false)

/-- the identifiers in the order the handler draws them, named by the generated call sites -/
def idsOf : Nat → String := fun n =>
  if n = 0 then (if built o then o.newID "Response_makeAssertionResponse" 0 else o.newID "Response_makeFailedResponse" 0)
  else if n = 1 then o.newID "makeAssertion" 0
  else o.newID "Response_makeFailedResponse" 0

/-- the input of the callback model read off from the oracle answers the generated handler sees -/
def inOfOra : Callback.In :=
  { inOf o cfg fmt exp (issuerOf o cfg fmt exp) (idOf o) (recOf o) (entity o).1 (idsOf o) with
    parseErr := o.m_ParseForm.isSome
    stored := if (lookup o).2.isNone then some (recOf o) else none
    storedErr := (lookup o).2.getD ""
    entity := if (entity o).2.isNone then some (entity o).1 else none }

/-- what one effect means for the client.  `sendBackResponse` delivers according to the `Response` it is called on;
    a message without assertion is sent unsigned, one with an assertion is signed in the style of the delivery -/
def outOfEff : Eff → Callback.Out
  | .httpError _ code => .httpError code.toNat
  | .sendBackResponse (some resp) (some m) =>
    .reply (Callback.deliver resp.AcsUrl resp.ProtocolBinding resp.RelayState) (msgOf m (assertionOf m.Assertion))
      (if (assertionOf m.Assertion).isNone then .none else Callback.sigStyle resp.AcsUrl resp.ProtocolBinding)
  | _ => .panic   -- a nil `Response` / message, or an effect a handler does not perform itself

/-- the reply of a handler run: defined when it wrote exactly once (or panicked) -/
def outOf : Res (List Eff) → Option Callback.Out
  | .panic => some .panic
  | .ok [e] => some (outOfEff e)
  | .ok _ => none

theorem outOf_eq_some {r : Res (List Eff)} {x : Callback.Out} (h : outOf r = some x) :
    r = .panic ∧ x = .panic ∨ ∃ e, r = .ok [e] ∧ outOfEff e = x := by
  unfold outOf at h
  split at h
  · exact .inl ⟨rfl, by simpa using h.symm⟩
  · exact .inr ⟨_, rfl, by simpa using h⟩
  · cases h

section input
variable {o cfg fmt exp}

theorem stored_eq_some {rec : Callback.Rec} :
    (inOfOra o cfg fmt exp).stored = some rec ↔ (lookup o).2 = none ∧ recOf o = rec := by
  simp [inOfOra]

theorem stored_eq_none : (inOfOra o cfg fmt exp).stored = none ↔ (lookup o).2.isSome := by
  simp [inOfOra, Option.isSome_iff_ne_none]

theorem entity_eq_some {aud : String} :
    (inOfOra o cfg fmt exp).entity = some aud ↔ (entity o).2 = none ∧ (entity o).1 = aud := by
  simp [inOfOra]

end input

theorem default_response : (default : provider_Response) =
    { ProtocolBinding := "", RelayState := "", AcsUrl := "", Signature := "", SigAlg := "", RequestID := "", Issuer := "",
      Audience := "", SendIP := "" } := rfl

/-- what `callbackHandleFunc` writes: 500 for a form that does not parse, a missing `id` or an application without entity
    ID; a RequestDenied response carrying the storage's error text, on a `Response` without consumer URL, for an unknown
    request; else what `loginResponse` returns on the filled-in `Response` - its message, or the failed response built
    from its error text -/
def handled : Res (List Eff) :=
  match o.m_ParseForm with
  | some e => .ok [.httpError ("failed to parse form: " ++ e) 500]
  | none =>
    if idOf o = "" then .ok [.httpError "no requestID provided" 500] else
    match (lookup o).2 with
    | some e =>
      .ok [.sendBackResponse (some { (default : provider_Response) with Issuer := issuerOf o cfg fmt exp })
        (some (responseRec (o.newID "Response_makeFailedResponse" 0) "" "" (o.m_Format o.now fmt) statusRequestDenied
          ("failed to get request: " ++ e) (issuerOf o cfg fmt exp)))]
    | none =>
      match (entity o).2 with
      | some e => .ok [.httpError ("failed to get entityID: " ++ e) 500]
      | none =>
        match IdentityProvider_loginResponse o (idp cfg fmt exp) () (some (respOf (issuerOf o cfg fmt exp) (recOf o) (entity o).1)) with
        | .panic => .panic
        | .ok (m, none, resp) => .ok [.sendBackResponse resp m]
        | .ok (_, some status, resp) =>
          match Response_makeFailedResponse o resp status "failed to create response" fmt with
          | .panic => .panic
          | .ok m => .ok [.sendBackResponse resp m]

theorem callbackHandle_eq : IdentityProvider_callbackHandleFunc o (idp cfg fmt exp) = handled o cfg fmt exp := by
  simp only [IdentityProvider_callbackHandleFunc, IdentityProvider_callbackHandleFunc.body, IdentityProvider_errorResponse,
    IdentityProvider_errorResponse.body, gosem, default_response, makeFailedResponse_eq, handled, respOf, recOf, entity, lookup, idOf,
    issuerOf]
  simp only [Bool.cond_eq_ite]
  generalize IdentityProvider_loginResponse o _ _ _ = L
  cases o.m_ParseForm with
  | some e => simp
  | none =>
  by_cases hid : o.formGet "id" = ""
  · simp [hid]
  cases (o.m_AuthRequestByID (o.formGet "id")).snd with
  | some e => simp [hid, statusRequestDenied]
  | none =>
  cases (o.m_GetEntityIDByAppID o.m_GetApplicationID).snd with
  | some e => simp [hid]
  | none =>
  rcases L with ⟨m, _ | st, resp⟩ | _
  · simp [hid, gosem]
  · cases hF : Response_makeFailedResponse o resp st "failed to create response" fmt <;> simp [hid, gosem, hF]
  · simp [hid, gosem]

section refines
-- what the client sees of a run, and the model on the handler's input, are unfolded in every case of the prologue
attribute [local simp] outOf outOfEff Callback.callback inOfOra inOf

/-- **the regenerated handler refines the callback model.**  For every behaviour of the environment (request, storage,
    key getter, signer, clock, identifier source) in which a successful user lookup hands back the attribute record it
    was given (`hsome`: the callee passes `&Attributes{}`, the storage cannot nil it), the handler regenerated from
    login.go on this run either panics where the model panics or writes to the client exactly once, and what it
    writes is the reply of `Callback.callback` on the input read off from the same answers. -/
theorem handler_refines (hsome : (userinfo o).1 = none → (userinfo o).2.isSome) :
    outOf (IdentityProvider_callbackHandleFunc o (idp cfg fmt exp)) = some (Callback.callback o (inOfOra o cfg fmt exp)) := by
  rw [callbackHandle_eq]
  unfold handled
  cases h : o.m_ParseForm with
  | some e => simp [h]
  | none =>
  dsimp only
  by_cases hid : idOf o = ""
  · rw [if_pos hid]; simp [h, hid]
  rw [if_neg hid]
  cases hl : (lookup o).2 with
  | some e =>
    simp [h, hid, hl, msgOf_responseRec, assertionOf_responseRec, Callback.deliver, Callback.failedMsg, idsOf, built, default_response]
  | none =>
  cases he : (entity o).2 with
  | some e => simp [h, hid, hl, he]
  | none =>
  dsimp only
  -- past the prologue the model's input is `inOf` of the stored request, and its reply follows `loginResponse`
  have hin : inOfOra o cfg fmt exp = inOf o cfg fmt exp (issuerOf o cfg fmt exp) (idOf o) (recOf o) (entity o).1 (idsOf o) := by
    simp [h, hl, he]
  have hb : built o = reached o := by
    unfold built reached
    rw [hl]
    rcases getResponseCert o () with ⟨_, _, _ | _⟩ | _ <;> simp
  have hf := callback_follows_login o cfg fmt exp (issuerOf o cfg fmt exp) (idOf o) (recOf o) (entity o).1 (idsOf o) hid rfl hsome
  rw [hin]
  rcases hL : IdentityProvider_loginResponse o (idp cfg fmt exp) () (some (respOf (issuerOf o cfg fmt exp) (recOf o) (entity o).1)) with
    ⟨m, _ | st, r'⟩ | _ <;> rw [hL] at hf
  · obtain ⟨hre, r, sig, a, rfl, has, rfl, hc⟩ := hf
    rw [hc (by simp [idsOf, hb, hre]) (by simp [idsOf])]
    obtain ⟨asr, has⟩ := Option.isSome_iff_exists.mp has
    simp [signedResp, respOf, recOf, has]
  · obtain ⟨rfl, rfl, hc⟩ := hf
    rw [hc]
    dsimp only
    rw [makeFailedResponse_eq]
    cases hre : reached o <;>
      simp [respOf, recOf, msgOf_responseRec, assertionOf_responseRec, idsOf, hb, hre]
  · exact congrArg some (Eq.symm hf)

end refines

/-- the handler never writes twice and never returns without writing -/
theorem handler_writes_once (hsome : (userinfo o).1 = none → (userinfo o).2.isSome) (t : List Eff)
    (ht : IdentityProvider_callbackHandleFunc o (idp cfg fmt exp) = .ok t) : ∃ e, t = [e] := by
  rcases outOf_eq_some (handler_refines o cfg fmt exp hsome) with ⟨hp, _⟩ | ⟨e, he, _⟩
  · cases ht.symm.trans hp
  · cases ht.symm.trans he; exact ⟨e, rfl⟩

theorem reply_of_wrote (hsome : (userinfo o).1 = none → (userinfo o).2.isSome) {resp : provider_Response} {m : samlp_ResponseType}
    (ht : IdentityProvider_callbackHandleFunc o (idp cfg fmt exp) = .ok [.sendBackResponse (some resp) (some m)]) :
    Callback.callback o (inOfOra o cfg fmt exp) = outOfEff (.sendBackResponse (some resp) (some m)) := by
  have h := handler_refines o cfg fmt exp hsome
  rw [ht] at h
  exact (Option.some.inj h).symm

end HandlerGen
