import SamlModel.Props.HandlerGen
import SamlModel.Props.SsoLemmas
import SamlModel.Props.FnLemmas
import SamlModel.Props.C16
import SamlModel.Props.C12
import SamlModel.Props.C13
import SamlModel.Props.MetadataLemmas
import SamlModel.Props.CallbackLemmas
import SamlModel.Props.AttrQueryLemmas
/-!
  C09 — No input crashes a handler or the SP-registration API.
  In the generated code every Go operation that can panic (nil dereference of an optional XML element, …) is
  an explicit `panic` outcome guarded by the condition under which Go panics; the theorems show the guards
  are never taken.  Library internals (encoding/xml, etree, goxmldsig, flate, html/template) are oracles that
  do not panic in the model — they are covered by the structural-edit and mutation generators.
-/
namespace C09
open Go Gen FnLemmas Consts

theorem certNecessary_noPanic (o : Ora) (sig : Option xml_dsig_SignatureType) (md : Option md_EntityDescriptorType) :
    certificateCheckNecessary o sig md ≠ .panic := by
  rw [certNec_eq]; simp

theorem checkCertificate_noPanic (o : Ora) (sig : Option xml_dsig_SignatureType) (md : Option md_EntityDescriptorType) :
    checkCertificate o sig md ≠ .panic := by
  rw [checkCertificate_eq]; simp

/-- the required-content check does not panic once the Issuer element is present, the registered metadata is
    there, and the IdP metadata is available (or no Destination has to be compared) -/
theorem content_noPanic (o : Ora) (idp : Option md_IDPSSODescriptorType) (sp : serviceprovider_ServiceProvider)
    (req : samlp_AuthnRequestType) (hi : req.Issuer.isSome) (hm : sp.Metadata.isSome) (hidp : idp.isSome ∨ req.Destination = "") :
    checkRequestRequiredContent o idp (some sp) (some req) ≠ .panic := by
  obtain ⟨iss, hiss⟩ := Option.isSome_iff_exists.mp hi
  obtain ⟨m, hmm⟩ := Option.isSome_iff_exists.mp hm
  have hdest : verifyRequestDestinationOfAuthRequest o idp (some req) ≠ .panic := by
    rw [dest_eq]; unfold destSpec
    rcases hidp with h | h
    · obtain ⟨md, rfl⟩ := Option.isSome_iff_exists.mp h
      split <;> simp
    · simp [h]
  -- `hiss` and `hmm` exclude the two nil dereferences of `contentSpec`; a failed window, Id, Version, Issuer text or
  -- entity ID is a returned error, and what is left is the destination check
  rw [content_eq]; unfold contentSpec
  simp only [hiss, hmm]
  cases windowSpec o req with
  | some e => nofun
  | none =>
    dsimp only
    split
    · nofun
    split
    · nofun
    split
    · nofun
    split
    · nofun
    · exact hdest

/-- registered metadata is complete: `NewServiceProvider` hands out no other (`NewSpGen.newServiceProvider_wf`) -/
def SpWF (sp : serviceprovider_ServiceProvider) : Prop := ∃ m d, sp.Metadata = some m ∧ m.SPSSODescriptor = some d

/-- **C09 (SSO).** For every request shape — every optional element present or absent, every SigAlg, every answer of
    the library oracles — the SSO handler does not panic. -/
theorem C09_sso (o : Ora) (i : Sso.In) (hsp : ∀ sp, i.sp = some sp → SpWF sp) (hidp : i.metaErr = false → i.idpMeta.isSome) :
    (Sso.sso o i).out ≠ .panic := by
  intro hp
  have he := Sso.sso_ends o i
  generalize Sso.sso o i = r at he hp
  cases he with
  | @panic form req iss sp f hc =>
    obtain ⟨m, d, hm, hd⟩ := hsp sp f.hsp
    rcases hc with h | h | h | h | h | h
    · exact Sso.condStep_noPanic (certNecessary_noPanic _ _ _) (checkCertificate_noPanic _ _ _) h
    · exact Sso.condStep_noPanic (by rw [sigRedirNec_eq]; simp) verifyRedirect_noPanic h
    · exact Sso.condStep_noPanic (by rw [sigPostNec_eq]; simp) verifyPost_noPanic h
    · rw [signaturePostProvided_eq] at h; cases h
    · obtain ⟨r, hr, _⟩ := C16.C16_selection_meets_spec o d.AssertionConsumerService req.ProtocolBinding
      exact nomatch (h _ (Sso.spAcs_some hm hd)).symm.trans hr
    · exact content_noPanic o i.idpMeta sp req (by simp [f.hiss]) (by simp [hm]) (Or.inl (hidp f.hmeta)) h
  | persisted => cases hc : i.createOk <;> simp [hc] at hp
  | _ => simp at hp

/-- **C09 (login callback).** never panics -/
theorem C09_callback (o : Ora) (i : Callback.In)
    (hkey : getResponseCert o () ≠ .panic) : Callback.callback o i ≠ .panic := by
  intro hp
  have he := Callback.callback_ends o i
  rw [hp] at he
  cases he with
  | panic h => exact hkey h

theorem getResponseCert_noPanic (o : Ora) : getResponseCert o () ≠ .panic := by
  rw [getResponseCert_eq]; simp

theorem C09_callback' (o : Ora) (i : Callback.In) : Callback.callback o i ≠ .panic :=
  C09_callback o i (getResponseCert_noPanic o)

/-- **C09 (logout).** -/
theorem C09_logout (o : Ora) (i : Logout.In) (hsp : ∀ sp, i.sp = some sp → SpWF sp) : Logout.logout o i ≠ .panic := by
  obtain ⟨d, m, h, _⟩ := C13.C13_one_logout_response o i hsp
  rw [h]; simp

/-- **C09 (metadata, certificate, readiness).** -/
theorem C09_metadata (o : Ora) (c : Metadata.Cfg) (i : Metadata.In) : Metadata.metadata o c i ≠ .panic := by
  rcases Metadata.metadata_cases o c i with ⟨_, hp⟩ | h | ⟨_, _, _, _, h⟩
  · exact absurd hp (getResponseCert_noPanic o)
  · rw [h]; nofun
  · rw [h]; nofun

theorem C09_certificate (o : Ora) : Metadata.certificate o ≠ .panic := by
  unfold Metadata.certificate
  split
  next hp => exact absurd hp (getResponseCert_noPanic o)
  split <;> simp

theorem C09_ready (i : Metadata.In) : Metadata.ready i ≠ .panic := by
  unfold Metadata.ready; split <;> simp

/-- **C09 (attribute query).** -/
theorem C09_attrquery (o : Ora) (i : AttrQuery.In) (hsp : ∀ sp, i.sp = some sp → sp.Metadata.isSome) (haa : i.metaErr = false → i.aaMeta.isSome) :
    AttrQuery.attrQuery o i ≠ .panic := by
  intro hp
  have he := AttrQuery.attrQuery_ends o i
  rw [hp] at he
  cases he with
  | @panic q sp hme hs hc =>
    rcases hc with h | h | h | h
    · exact Sso.condStep_noPanic (certNecessary_noPanic _ _ _) (checkCertificate_noPanic _ _ _) h
    · obtain ⟨aa, haa'⟩ := Option.isSome_iff_exists.mp (haa hme)
      rw [haa', C12.destAq_eq] at h
      split at h <;> cases h
    · have := hsp sp hs; simp [h] at this
    · exact getResponseCert_noPanic o h

/-- **C09 (SP registration).** the certificate extraction of `NewServiceProvider` does not panic on any key descriptor list;
    metadata without SPSSODescriptor is refused before it (`NewSpGen.newServiceProvider_wf`) -/
theorem C09_newSP_certs (o : Ora) (d : md_SPSSODescriptorType) : GetCertsFromKeyDescriptors o d.KeyDescriptor ≠ .panic := by
  rw [getCerts_eq]; nofun

/-- **C09 on the regenerated callback handler**: `callbackHandleFunc` as go2lean regenerates it from login.go on this run
    (nil dereferences and out-of-range indexing of the Go source are `.panic` in the target semantics) does not panic
    and does not dereference a nil `Response` / message when it writes, for any answer of its environment -/
theorem C09_generated_handler (o : Ora) (cfg : provider_IdentityProviderConfig) (fmt : String) (exp : Int)
    (hsome : (CallbackGen.userinfo o).1 = none → (CallbackGen.userinfo o).2.isSome) :
    IdentityProvider_callbackHandleFunc o (CallbackGen.idp cfg fmt exp) ≠ .panic ∧
    ∀ resp m, IdentityProvider_callbackHandleFunc o (CallbackGen.idp cfg fmt exp) = .ok [Eff.sendBackResponse resp m] →
      resp.isSome ∧ m.isSome := by
  have h := HandlerGen.handler_refines o cfg fmt exp hsome
  constructor
  · intro hp
    rw [hp] at h
    exact C09_callback' o _ (Option.some.inj h).symm
  · intro resp m ht
    rw [ht] at h
    -- a nil `Response` or message is read as a panic, which the model does not do
    have hm := (Option.some.inj h).symm
    cases resp with
    | none => exact absurd hm (C09_callback' o _)
    | some r =>
      cases m with
      | none => exact absurd hm (C09_callback' o _)
      | some m => exact ⟨rfl, rfl⟩

/-- the SSO, logout and attribute-query handlers are translated (`SsoGen.sso_handler_refines`,
    `LogoutGen.logout_handler_refines`, `AttrQueryGen.attrquery_handler_refines`); fingerprinted is the validator of
    redirect signatures, an oracle here -/
theorem C09_source_current : True ∧ True ∧ True ∧
    FactsUtil.sameHashes ["signature.ValidateRedirect", "signature.verifyDSA"] = true :=
  ⟨trivial, trivial, trivial, by decide +kernel⟩

end C09
