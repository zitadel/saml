import SamlModel.Lemmas.Builders
import SamlModel.Model.Logout
import SamlModel.Props.CallbackGen
import SamlModel.Lemmas.GoSem
/-!
  Props.LogoutGen — `IdentityProvider.logoutHandleFunc` is *translated*: go2lean regenerates the handler from logout.go
  on every run.  The closure literals the handler registers with its `checker.Checker` become functions of the handler
  frame (`Go.Clo`), the chain is built with the functions of `Model.Checker` (one `Checker.withXxx` per
  `checkerInstance.WithXxx` call, in source order), `CheckFailed()` is `Go.runChain`, and what the handler and its
  failure callbacks write to the client is returned as an effect trace.

  `logout_handler_refines`: for **every** behaviour of the environment (form parser, decoder, storage, clock,
  identifier source) that honours `EnvOK` the regenerated handler panics where the hand-written model `Logout.logout`
  (the model the C13 theorems are about) panics, and else writes exactly one LogoutResponse, the reply of that model on
  the input read off from the same oracle answers.
-/
namespace LogoutGen
open Go Gen Consts CallbackGen Builders

variable (o : Ora) (cfg : provider_IdentityProviderConfig) (fmt : String) (exp : Int)

/-- `getLogoutRequestFromRequest(r)` -/
def formOf : Option provider_LogoutRequestForm :=
  match getLogoutRequestFromRequest o with
  | .ok (some f, none) => some f
  | _ => none

def lformOf (f : provider_LogoutRequestForm) : Logout.LForm :=
  { LogoutRequest := f.LogoutRequest, Encoding := f.Encoding, RelayState := f.RelayState }

/-- `xml.DecodeLogoutRequest(form.Encoding, form.LogoutRequest)` -/
def decodedOf : Option samlp_LogoutRequestType :=
  match formOf o with
  | none => none
  | some f => if (o.f_DecodeLogoutRequest f.Encoding f.LogoutRequest).2.isNone then (o.f_DecodeLogoutRequest f.Encoding f.LogoutRequest).1 else none

/-- `p.GetServiceProvider(ctx, request.Issuer.Text)` -/
def spOf : Option serviceprovider_ServiceProvider :=
  match decodedOf o with
  | none => none
  | some req =>
    match req.Issuer with
    | none => none
    | some iss => if (o.m_GetServiceProvider (idp cfg fmt exp) iss.Text).2.isNone then (o.m_GetServiceProvider (idp cfg fmt exp) iss.Text).1 else none

/-- the input of the logout model read off from the oracle answers the generated handler sees -/
def inOfOra : Logout.In :=
  { issuer := o.m_GetEntityID (idp cfg fmt exp), timeFormat := fmt,
    form := (formOf o).map lformOf, decoded := decodedOf o, sp := spOf o cfg fmt exp,
    issueInstant := o.m_Format o.now fmt, newID := o.newID "makeLogoutResponse" 0 }

/-- what one effect means for the client: `sendBackLogoutResponse` delivers according to the `LogoutResponse` it is
    called on (`Logout.deliver`; the rendering is `sloSendBack_renders` below) -/
def outOfEff : Eff → Logout.Out
  | .sendBackLogoutResponse (some resp) (some m) => .reply (Logout.deliver resp.LogoutURL resp.RelayState) (logoutMsgOf m)
  | _ => .panic

def outOf : Res (List Eff) → Option Logout.Out
  | .panic => some .panic
  | .ok [e] => some (outOfEff e)
  | .ok _ => none

theorem outOf_eq_some {r : Res (List Eff)} {x : Logout.Out} (h : outOf r = some x) :
    r = .panic ∧ x = .panic ∨ ∃ e, r = .ok [e] ∧ outOfEff e = x := by
  unfold outOf at h
  split at h
  · exact .inl ⟨rfl, by simpa using h.symm⟩
  · exact .inr ⟨_, rfl, by simpa using h⟩
  · cases h

/-- contract of the environment: a decoder / storage call that reports no error hands back a value -/
def EnvOK : Prop :=
  (∀ enc req, (o.f_DecodeLogoutRequest enc req).2 = none → (o.f_DecodeLogoutRequest enc req).1.isSome) ∧
  (∀ iss, (o.m_GetServiceProvider (idp cfg fmt exp) iss).2 = none → (o.m_GetServiceProvider (idp cfg fmt exp) iss).1.isSome)

def theForm : provider_LogoutRequestForm :=
  { LogoutRequest := o.formGet "SAMLRequest",
    Encoding := if o.urlQueryHas "SAMLRequest" && o.formGet "SAMLEncoding" == "" then encodingDeflate else o.formGet "SAMLEncoding",
    RelayState := o.formGet "RelayState" }

theorem getForm_eq : getLogoutRequestFromRequest o =
    match o.m_ParseForm with
    | some e => .ok (none, some e)
    | none => .ok (some (theForm o), none) := by
  unfold getLogoutRequestFromRequest getLogoutRequestFromRequest.body theForm
  cases o.m_ParseForm with
  | some e => simp
  | none =>
    by_cases hq : (o.urlQueryHas "SAMLRequest" && o.formGet "SAMLEncoding" == "") = true <;>
      simp [hq, encodingDeflate]

theorem formOf_ok (h : o.m_ParseForm = none) : formOf o = some (theForm o) := by
  simp [formOf, getForm_eq, h]

theorem default_lresp : (default : provider_LogoutResponse) = { RelayState := "", LogoutURL := "", RequestID := "", Issuer := "" } := rfl

section refines
open IdentityProvider_logoutHandleFunc
-- what the client sees of a run, and the model, are unfolded in every case below
attribute [local simp] outOf outOfEff logoutMsgOf_rec Logout.logout Logout.mkMsg Logout.deliver inOfOra

/-- **the regenerated logout handler refines the logout model.**  For every behaviour of the environment that honours
    `EnvOK`, the handler regenerated from logout.go on this run either panics where the model panics (a registered
    service provider without SPSSODescriptor, a panicking time check) or writes to the client exactly once, and what it
    writes is the reply of `Logout.logout` on the input read off from the same answers. -/
theorem logout_handler_refines (henv : EnvOK o cfg fmt exp) :
    outOf (IdentityProvider_logoutHandleFunc o (idp cfg fmt exp)) = some (Logout.logout o (inOfOra o cfg fmt exp)) := by
  cases h : o.m_ParseForm with
  | some e =>
    simp only [IdentityProvider_logoutHandleFunc, body, runChain_eq_runDirect, chain, clo0, clo1, gosem,
      getForm_eq, h, makeFailedLogoutResponse_eq, default_lresp]
    simp [formOf, getForm_eq, h, statusRequestDenied]
  | none =>
  rcases hd : o.f_DecodeLogoutRequest (theForm o).Encoding (theForm o).LogoutRequest with ⟨dq, derr⟩
  cases derr with
  | some e =>
    simp only [IdentityProvider_logoutHandleFunc, body, runChain_eq_runDirect, chain, clo0, clo1, clo2, clo3,
      gosem, getForm_eq, h, hd, makeFailedLogoutResponse_eq, default_lresp]
    simp [formOf_ok o h, decodedOf, hd, statusRequestDenied]
  | none =>
  obtain ⟨req, rfl⟩ := value_of_noErr (henv.1 _ _) hd
  have hdec : decodedOf o = some req := by simp [decodedOf, formOf_ok o h, hd]
  -- every answer is named before the handler runs (the storage's for the Issuer the request may not have, too): splitting
  -- on a compound term afterwards would have to abstract it from the whole tree of `if`s
  rcases ht : checkIfRequestTimeIsStillValid o req.IssueInstant req.NotOnOrAfter fmt with terr | _
  · rcases hs : o.m_GetServiceProvider (idp cfg fmt exp) (deref req.Issuer).Text with ⟨spo, serr⟩
    simp only [IdentityProvider_logoutHandleFunc, body, runChain_eq_runDirect, chain, clo0, clo1, clo2, clo3, clo4, clo5,
      clo6, clo7, clo8, gosem, getForm_eq, h, makeFailedLogoutResponse_eq, default_lresp, hd, ht, hs]
    simp only [Bool.cond_eq_ite]
    cases terr with
    | some e => simp [formOf_ok o h, hdec, ht, statusRequestDenied, gosem]
    | none =>
    cases hi : req.Issuer with
    | none => simp [formOf_ok o h, hdec, ht, hi, statusRequestDenied, gosem]
    | some iss =>
    rw [hi, deref_some] at hs
    cases serr with
    | some e => simp [formOf_ok o h, hdec, ht, hi, hs, spOf, statusRequestDenied, gosem]
    | none =>
    obtain ⟨sp, rfl⟩ := value_of_noErr (henv.2 _) hs
    have hsp : spOf o cfg fmt exp = some sp := by simp [spOf, hdec, hi, hs]
    cases hm : sp.Metadata with
    | none => simp [formOf_ok o h, hdec, ht, hi, hsp, hm, gosem]
    | some md =>
    cases hdsc : md.SPSSODescriptor with
    | none => simp [formOf_ok o h, hdec, ht, hi, hsp, hm, hdsc, gosem]
    | some dsc =>
    cases hl : dsc.SingleLogoutService <;>
      simp [formOf_ok o h, hdec, ht, hi, hsp, hm, hdsc, hl, gosem, Logout.firstSlo, lformOf, statusSuccess,
        makeSuccessfulLogoutResponse_eq, goFor_cons]
  · simp only [IdentityProvider_logoutHandleFunc, body, runChain_eq_runDirect, chain, clo0, clo1, clo2, clo3, clo4, clo5,
      gosem, getForm_eq, h, default_lresp, hd, ht]
    simp [formOf_ok o h, hdec, ht]

end refines

/-- the handler never writes twice and never returns without writing -/
theorem logout_handler_writes_once (henv : EnvOK o cfg fmt exp) (t : List Eff)
    (ht : IdentityProvider_logoutHandleFunc o (idp cfg fmt exp) = .ok t) : ∃ e, t = [e] := by
  rcases outOf_eq_some (logout_handler_refines o cfg fmt exp henv) with ⟨hp, _⟩ | ⟨e, he, _⟩
  · cases ht.symm.trans hp
  · cases ht.symm.trans he; exact ⟨e, rfl⟩

/-- what follows a write: nothing, or the error callback with the write error -/
def sloAfter (k : Nat) : List Eff :=
  match o.writeErr "LogoutResponse_sendBackLogoutResponse" k with
  | none => []
  | some e => [.callErrorFunc e]

/-- what `sendBackLogoutResponse` writes -/
def sloRender (resp : provider_LogoutResponse) (m : Option samlp_LogoutResponseType) : List Eff :=
  match o.f_Marshal_LogoutResponseType m with
  | (_, some e) => [.callErrorFunc e]
  | (data, none) =>
    if resp.LogoutURL = "" then .xmlWrite data :: sloAfter o 0
    else .templateExecute_LogoutResponseForm { RelayState := resp.RelayState, SAMLResponse := Lib.b64encode data, LogoutURL := resp.LogoutURL } :: sloAfter o 1

/-- **`sendBackLogoutResponse` as regenerated from logout_response.go writes exactly `sloRender`** and never panics -/
theorem sloSendBack_renders (resp : provider_LogoutResponse) (m : Option samlp_LogoutResponseType) :
    LogoutResponse_sendBackLogoutResponse o (some resp) m = .ok (sloRender o resp m) := by
  rcases hm : o.f_Marshal_LogoutResponseType m with ⟨data, e⟩
  generalize hw0 : o.writeErr "LogoutResponse_sendBackLogoutResponse" 0 = w0
  generalize hw1 : o.writeErr "LogoutResponse_sendBackLogoutResponse" 1 = w1
  simp only [LogoutResponse_sendBackLogoutResponse, LogoutResponse_sendBackLogoutResponse.body, gosem, hm, hw0, hw1, sloRender, sloAfter]
  simp only [Bool.cond_eq_ite]
  cases e with
  | some e => simp
  | none => by_cases hu : resp.LogoutURL = "" <;> cases w0 <;> cases w1 <;> simp [hu]

/-- **the hand model's delivery is what the regenerated `sendBackLogoutResponse` does**: `Logout.deliver` names its first
    write — the marshalled message as the body, or the auto-submitting form with exactly (RelayState, base64 message,
    logout URL) -/
theorem sloSendBack_delivers (resp : provider_LogoutResponse) (m : Option samlp_LogoutResponseType) (data : Lib.Bytes)
    (hm : o.f_Marshal_LogoutResponseType m = (data, none)) :
    match Logout.deliver resp.LogoutURL resp.RelayState with
    | .xmlBody => (sloRender o resp m).head? = some (.xmlWrite data)
    | .postForm url relay =>
      (sloRender o resp m).head? = some (.templateExecute_LogoutResponseForm { RelayState := relay, SAMLResponse := Lib.b64encode data, LogoutURL := url }) := by
  unfold Logout.deliver sloRender
  rw [hm]
  by_cases hu : resp.LogoutURL = "" <;> simp [hu]

end LogoutGen
