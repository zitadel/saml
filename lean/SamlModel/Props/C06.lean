import SamlModel.Lib.Time
import SamlModel.Props.SsoLemmas
import SamlModel.Props.FnLemmas
/-!
  C06 — Accepted AuthnRequests satisfy every validity condition.
  "Accepted" = the SSO model ends in the login redirect (by C08 exactly the runs that persist the
  request).  The statement is about `Model.Sso` (tied to the source by the refinement
  `SsoGen.sso_handler_refines`) and the *generated* `checkRequestRequiredContent`, `checkIfRequestTimeIsStillValid`,
  `verifyRequestDestinationOfAuthRequest`, `GetEntityID`.
-/
namespace C06
open Go Gen Sso FnLemmas Consts

def accepted (o : Ora) (i : In) : Prop := ∃ id, (sso o i).out = .login id

/-- **C06.** An accepted request: the form carried a non-empty SAMLRequest, no SigAlg without
    Signature, the payload decoded as an AuthnRequest, its Issuer is present and is the entity ID of the
    registered service provider storage returned for it, ID and Version are non-empty, Destination is
    absent or one of the advertised SSO locations, and Conditions (when present) bracket the current
    time in the supported lexical form. -/
theorem C06_accept_implies_valid (o : Ora) (i : In) (h : accepted o i) :
    ∃ form req sp,
      i.form = some form ∧ form.AuthRequest ≠ "" ∧ ¬ (form.SigAlg ≠ "" ∧ form.Sig = "") ∧
      i.decoded = some req ∧ i.sp = some sp ∧
      req.Id ≠ "" ∧ req.Version ≠ "" ∧
      (∃ iss m, req.Issuer = some iss ∧ iss.Text ≠ "" ∧ sp.Metadata = some m ∧ iss.Text = m.EntityID) ∧
      DestOK i.idpMeta req ∧
      (∀ c, req.Conditions = some c → TimeOK o defaultTimeFormat c.NotBefore c.NotOnOrAfter) := by
  obtain ⟨id, h⟩ := h
  obtain ⟨form, req, iss, sp, acsList, sel, a⟩ := accepted_of_login h
  have c := (content_iff o i.idpMeta sp req).mp a.h14
  exact ⟨form, req, sp, a.hform, a.hreq, a.hsigalg, a.hdec, a.hsp, c.id, c.version, c.issuer, c.dest, c.time⟩

/-- an empty SAMLRequest is rejected -/
theorem C06_empty_request_rejected (o : Ora) (i : In) (form : Form) (hf : i.form = some form) (he : form.AuthRequest = "") :
    ¬ accepted o i := by
  intro ⟨_, h⟩
  obtain ⟨_, _, _, _, _, _, a⟩ := accepted_of_login h
  cases hf.symm.trans a.hform; exact a.hreq he

/-- a SigAlg without a Signature is rejected -/
theorem C06_sigalg_without_signature_rejected (o : Ora) (i : In) (form : Form) (hf : i.form = some form)
    (h1 : form.SigAlg ≠ "") (h2 : form.Sig = "") : ¬ accepted o i := by
  intro ⟨_, h⟩
  obtain ⟨_, _, _, _, _, _, a⟩ := accepted_of_login h
  cases hf.symm.trans a.hform; exact a.hsigalg ⟨h1, h2⟩

/-- an undecodable payload (bad base64 / DEFLATE / XML, unknown SAMLEncoding — everything that makes
    `DecodeAuthNRequest` fail) is rejected -/
theorem C06_undecodable_rejected (o : Ora) (i : In) (hd : i.decoded = none) : ¬ accepted o i := by
  intro ⟨_, h⟩
  obtain ⟨_, _, _, _, _, _, a⟩ := accepted_of_login h
  exact nomatch hd.symm.trans a.hdec

/-- a request for which no service provider was found is rejected: its Issuer is unknown to storage, or it has none
    (the handler then looks none up: `SsoGen.spOf`) -/
theorem C06_unregistered_issuer_rejected (o : Ora) (i : In) (hs : i.sp = none) : ¬ accepted o i := by
  intro ⟨_, h⟩
  obtain ⟨_, _, _, _, _, _, a⟩ := accepted_of_login h
  exact nomatch hs.symm.trans a.hsp

theorem accepted_window {o : Ora} {i : In} {req : samlp_AuthnRequestType} {c : saml_ConditionsType} (h : accepted o i)
    (hd : i.decoded = some req) (hc : req.Conditions = some c) : TimeOK o defaultTimeFormat c.NotBefore c.NotOnOrAfter := by
  obtain ⟨_, h⟩ := h
  obtain ⟨_, _, _, sp, _, _, a⟩ := accepted_of_login h
  cases hd.symm.trans a.hdec
  exact ((content_iff o i.idpMeta sp _).mp a.h14).time c hc

/-- unparseable timestamps are rejected -/
theorem C06_unparseable_time_rejected (o : Ora) (i : In) (req : samlp_AuthnRequestType) (c : saml_ConditionsType)
    (hd : i.decoded = some req) (hc : req.Conditions = some c)
    (hbad : (c.NotBefore ≠ "" ∧ o.timeParse defaultTimeFormat c.NotBefore = none) ∨
            (c.NotOnOrAfter ≠ "" ∧ o.timeParse defaultTimeFormat c.NotOnOrAfter = none)) : ¬ accepted o i := by
  intro h
  obtain ⟨t1, t2⟩ := accepted_window h hd hc
  rcases hbad with ⟨hn, hp⟩ | ⟨hn, hp⟩
  · obtain ⟨t, htp, _⟩ := t1 hn; exact nomatch hp.symm.trans htp
  · obtain ⟨t, htp, _⟩ := t2 hn; exact nomatch hp.symm.trans htp

/-- a request outside its validity window is rejected (exact boundaries: NotBefore ≤ now < NotOnOrAfter) -/
theorem C06_outside_window_rejected (o : Ora) (i : In) (req : samlp_AuthnRequestType) (c : saml_ConditionsType)
    (hd : i.decoded = some req) (hc : req.Conditions = some c) (t : Int)
    (hbad : (c.NotBefore ≠ "" ∧ o.timeParse defaultTimeFormat c.NotBefore = some t ∧ o.now < t) ∨
            (c.NotOnOrAfter ≠ "" ∧ o.timeParse defaultTimeFormat c.NotOnOrAfter = some t ∧ t ≤ o.now)) : ¬ accepted o i := by
  intro h
  obtain ⟨t1, t2⟩ := accepted_window h hd hc
  rcases hbad with ⟨hn, hp, hlt⟩ | ⟨hn, hp, hle⟩
  · obtain ⟨t', htp, hle⟩ := t1 hn; rw [hp] at htp; cases htp; omega
  · obtain ⟨t', htp, hlt⟩ := t2 hn; rw [hp] at htp; cases htp; omega

/-! ## The default layout, concretely

  `time.Parse` is an oracle of the generated `checkIfRequestTimeIsStillValid`.  For the library's `DefaultTimeFormat`
  it is also modelled (`Lib.Time.parseDefault`, compared with `time.Parse` on a boundary corpus and some 10^4-10^5
  mutated strings on every run).  Under the hypothesis that the oracle is that function, "unparseable" and "the
  instant" become concrete. -/

/-- the `time.Parse` oracle answers as Go's parser does for the default layout (instants in nanoseconds) -/
def ParsesAsGo (o : Ora) : Prop :=
  ∀ s, o.timeParse defaultTimeFormat s = (Lib.Time.parseDefault s.toList).map Lib.Time.Instant.nanos

theorem ParsesAsGo.parsed {o : Ora} (hgo : ParsesAsGo o) {s : String} {t : Int} (h : o.timeParse defaultTimeFormat s = some t) :
    ∃ u, Lib.Time.parseDefault s.toList = some u ∧ u.nanos = t := by
  rw [hgo] at h
  cases hp : Lib.Time.parseDefault s.toList with
  | none => rw [hp] at h; cases h
  | some u => rw [hp] at h; exact ⟨u, rfl, Option.some.inj h⟩

/-- an accepted request's Conditions carry timestamps of the supported lexical form whose instants bracket `now` -/
theorem C06_window_concrete (o : Ora) (i : In) (req : samlp_AuthnRequestType) (c : saml_ConditionsType) (hgo : ParsesAsGo o)
    (h : accepted o i) (hd : i.decoded = some req) (hc : req.Conditions = some c) :
    (c.NotBefore ≠ "" → ∃ t, Lib.Time.parseDefault c.NotBefore.toList = some t ∧ t.nanos ≤ o.now) ∧
    (c.NotOnOrAfter ≠ "" → ∃ t, Lib.Time.parseDefault c.NotOnOrAfter.toList = some t ∧ o.now < t.nanos) := by
  obtain ⟨t1, t2⟩ := accepted_window h hd hc
  constructor
  · intro hn
    obtain ⟨t, htp, hle⟩ := t1 hn
    obtain ⟨u, hu, rfl⟩ := hgo.parsed htp
    exact ⟨u, hu, hle⟩
  · intro hn
    obtain ⟨t, htp, hlt⟩ := t2 hn
    obtain ⟨u, hu, rfl⟩ := hgo.parsed htp
    exact ⟨u, hu, hlt⟩

/-- `0001-01-01T00:00:00Z` is a timestamp like any other (Go's zero `time.Time`): a request that expired then is
    rejected at any time after 1970 -/
theorem C06_zero_time_is_expired (o : Ora) (i : In) (req : samlp_AuthnRequestType) (c : saml_ConditionsType) (hgo : ParsesAsGo o)
    (hd : i.decoded = some req) (hc : req.Conditions = some c) (hz : c.NotOnOrAfter = "0001-01-01T00:00:00Z") (hnow : 0 ≤ o.now) :
    ¬ accepted o i := by
  intro h
  obtain ⟨t, hp, hlt⟩ := (C06_window_concrete o i req c hgo h hd hc).2 (by rw [hz]; decide)
  have : Lib.Time.parseDefault c.NotOnOrAfter.toList = some { sec := -62135596800, nsec := 0 } := by rw [hz]; decide
  rw [this] at hp; cases hp
  have : o.now < -62135596800 * 1000000000 + 0 := hlt
  omega

/-- lexical forms outside the layout are errors; forms inside it that one might not expect are accepted (regression
    table for the model; the same strings are in the corpus compared with `time.Parse`) -/
example :
    Lib.Time.parseDefault "2024-01-01T00:00:00+00:00".toList = none ∧ Lib.Time.parseDefault "2024-01-01T00:00:00".toList = none ∧
    Lib.Time.parseDefault "2024-01-01 00:00:00Z".toList = none ∧ Lib.Time.parseDefault "2023-02-29T00:00:00Z".toList = none ∧
    Lib.Time.parseDefault "2024-01-01T24:00:00Z".toList = none ∧ Lib.Time.parseDefault "2024-01-01T23:59:60Z".toList = none ∧
    (Lib.Time.parseDefault "2024-02-29T5:04:05,1234567891Z".toList).isSome ∧ (Lib.Time.parseDefault "1970-01-01T00:00:00Z".toList) = some ⟨0, 0⟩ := by
  decide +kernel

/-- `Lib.Time.parseDefault` was written from the `time` package of this toolchain -/
theorem C06_toolchain_current : FactsUtil.lookup Gen.Facts.deps "go" = "1.23.7" := by decide +kernel

/-- tie obligations of this property -/
theorem C06_source_current : True ∧ Consts.current = true :=
  ⟨trivial, Consts.current_true⟩

/-- non-vacuity: a minimal valid unsigned Redirect request is accepted -/
def exampleOra : Ora where
  now := 100
  timeParse := fun _ _ => none
  m_ValidateRedirectSignature := fun _ _ _ _ _ => none
  m_ValidatePostSignature := fun _ _ => none
  urlParse := fun _ => none
  inflate := fun _ => {}
  m_GetResponseSigningKey := (none, none)
def exampleAcs : md_IndexedEndpointType := { Index := "1", Binding := postBinding, Location := "https://sp/acs" }
def exampleSPSSO : md_SPSSODescriptorType := { AuthnRequestsSigned := "false", AssertionConsumerService := [exampleAcs] }
def exampleSP : serviceprovider_ServiceProvider := { ID := "app", Metadata := some { EntityID := "sp", SPSSODescriptor := some exampleSPSSO } }
def exampleIdp : md_IDPSSODescriptorType := { WantAuthnRequestsSigned := "", SingleSignOnService := [{ Location := "https://idp/SSO" }] }
def exampleForm : Form := { AuthRequest := "abc", Binding := redirectBinding, RelayState := "r" }
def exampleReq : samlp_AuthnRequestType := { Id := "id1", Version := "2.0", Issuer := some { Text := "sp" } }
def exampleIn : In :=
  { idpMeta := some exampleIdp, form := some exampleForm, decoded := some exampleReq, sp := some exampleSP, createOk := true, createdID := "ar-1" }
example : (sso exampleOra exampleIn).out = .login "ar-1" := by decide +kernel

end C06
