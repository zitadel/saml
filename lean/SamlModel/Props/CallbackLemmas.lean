import SamlModel.Model.Callback
import SamlModel.Props.C03
import SamlModel.Props.Current
/-!
  Lemmas about the login-callback model shared by C01, C02, C03, C04, C09: `callback_ends` says once how a run can
  end and what was known then, `succeeded` is its reading for a Success reply; the property files read their statements
  off them.
-/
namespace Callback
open Go Gen Consts

def successMsg (i : In) (rec : Rec) (aud : String) (attrs : provider_Attributes) : Msg :=
  { mkResponse (i.ids 0) rec.reqID rec.acs i.issueInstant statusSuccess "" i.issuer with
    assertion := some (mkAssertion (i.ids 1) rec.reqID rec.acs i.issueInstant i.untilInstant i.issuer
      (some { Format := "urn:oasis:names:tc:SAML:1.1:nameid-format:emailAddress", Text := attrs.username })
      (C03.specAttrs attrs) aud) }

inductive Ends (o : Ora) (i : In) : Out → Prop
  | refused : Ends o i (.httpError 500)
  | unknown : i.stored = none →
      Ends o i (.reply .xmlBody (failedMsg i "" "" statusRequestDenied ("failed to get request: " ++ i.storedErr)) .none)
  | panic : getResponseCert o () = .panic → Ends o i .panic
  /-- the request is known but cannot be answered with an assertion: not done, no user, no key, or signing failed -/
  | failed {rec : Rec} (id st : String) : i.stored = some rec → st ≠ statusSuccess →
      rec.done = false ∨ i.userinfo = none ∨ (∃ c k e, getResponseCert o () = .ok (c, k, some e)) ∨ i.signOk = false →
      Ends o i (.reply (deliver rec.acs rec.binding rec.relay)
        (mkResponse id rec.reqID rec.acs i.issueInstant st "failed to create response" i.issuer) .none)
  | success {rec : Rec} {aud : String} {attrs : provider_Attributes} {c : Lib.Bytes} {k : Option KeyRec} :
      i.parseErr = false → i.id ≠ "" → i.stored = some rec → i.entity = some aud → rec.done = true → i.userinfo = some attrs →
      getResponseCert o () = .ok (c, k, none) → i.signOk = true →
      Ends o i (.reply (deliver rec.acs rec.binding rec.relay) (successMsg i rec aud attrs) (sigStyle rec.acs rec.binding))

theorem callback_ends (o : Ora) (i : In) : Ends o i (callback o i) := by
  unfold callback
  by_cases hp : i.parseErr = true
  · rw [if_pos hp]; exact .refused
  rw [if_neg hp]
  by_cases hid : (i.id == "") = true
  · rw [if_pos hid]; exact .refused
  rw [if_neg hid]
  split
  next => exact .unknown ‹_›
  next rec hrec =>
  split
  next => exact .refused
  next aud hent =>
  dsimp only
  cases hd : rec.done with
  | false => exact .failed _ _ hrec authnFailed_ne_success (.inl hd)
  | true =>
  rw [if_neg (by simp)]
  split
  next => exact .failed _ _ hrec invalidAttr_ne_success (.inr (.inl ‹_›))
  next attrs hui =>
  split
  next => exact .panic ‹_›
  next c k kerr hkey =>
  cases kerr with
  | some e => exact .failed _ _ hrec invalidAttr_ne_success (.inr (.inr (.inl ⟨_, _, _, hkey⟩)))
  | none =>
  rw [if_neg (by simp), C03.getNameID_eq, C03.getSAML_eq]
  dsimp only
  cases hs : i.signOk with
  | false => exact .failed _ _ hrec responder_ne_success (.inr (.inr (.inr hs)))
  | true => exact .success (by simpa using hp) (by simpa using hid) hrec hent hd hui hkey hs

/-- the whole positive path was taken -/
structure Succeeded (o : Ora) (i : In) (rec : Rec) (aud : String) (attrs : provider_Attributes) (c : Lib.Bytes)
    (k : Option KeyRec) : Prop where
  hparse : i.parseErr = false
  hid : i.id ≠ ""
  hrec : i.stored = some rec
  hent : i.entity = some aud
  hdone : rec.done = true
  hui : i.userinfo = some attrs
  hkey : getResponseCert o () = .ok (c, k, none)
  hsign : i.signOk = true

/-- a Success status comes from the last way of ending alone, and then the reply is `successMsg`, delivered and signed
    as the stored request says -/
theorem succeeded {o : Ora} {i : In} {d : Delivery} {m : Msg} {s : Sig} (h : callback o i = .reply d m s)
    (hs : m.status = statusSuccess) :
    ∃ rec aud attrs c k, Succeeded o i rec aud attrs c k ∧ d = deliver rec.acs rec.binding rec.relay ∧
      m = successMsg i rec aud attrs ∧ s = sigStyle rec.acs rec.binding := by
  have he := callback_ends o i
  rw [h] at he
  cases he with
  | unknown _ => exact absurd hs requestDenied_ne_success
  | failed _ _ _ hne _ => exact absurd hs hne
  | success hp hid hrec hent hd hui hkey hsign =>
    exact ⟨_, _, _, _, _, ⟨hp, hid, hrec, hent, hd, hui, hkey, hsign⟩, rfl, rfl, rfl⟩

end Callback
