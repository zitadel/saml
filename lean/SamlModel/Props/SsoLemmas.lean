import SamlModel.Model.Sso
import SamlModel.Props.FnLemmas
import SamlModel.Props.Current
/-!
  Lemmas about the SSO model shared by C02, C05, C06, C07, C08, C09, C10, C11: what the chain has established at each
  stage and how a run can end (`sso_ends`); the property files read their statements off these.
-/
namespace Sso
open Go Gen Consts

/-- `ssoHandleFunc` and `getAuthRequestFromRequest` are translated on every run and `SsoGen.sso_handler_refines` ties
    the regenerated handler to `Model.Sso`, so this tie lists no fingerprint.  (`IdentityProvider.GetMetadata`,
    `xml.DecodeAuthNRequest` and `IdentityProvider.GetServiceProvider` are translated standalone:
    MetadataGen.C11_generated_metadata / DecodeGen.decodeAuthN_spec / LookupGen.getServiceProvider_spec) -/
theorem sso_sources_current : True := trivial

theorem condStep_true {c : Res Bool} {l : Res Err} (h : condStep c l = .ok none) (hc : c = .ok true) : l = .ok none := by
  subst hc; exact h

theorem condStep_noPanic {c : Res Bool} {l : Res Err} (hc : c ≠ .panic) (hl : l ≠ .panic) : condStep c l ≠ .panic := by
  unfold condStep
  cases c with
  | panic => exact absurd rfl hc
  | ok b => cases b <;> simp [hl]

theorem spAcs_some {sp : serviceprovider_ServiceProvider} {m : md_EntityDescriptorType} {d : md_SPSSODescriptorType}
    (hm : sp.Metadata = some m) (hd : m.SPSSODescriptor = some d) : spAcs sp = some d.AssertionConsumerService := by
  simp [spAcs, hm, hd]

open FnLemmas in
/-- step 7 passes iff the Redirect signature, wherever one is called for, verifies over exactly these values -/
theorem redirectStep_ok {o : Ora} {idp : Option md_IDPSSODescriptorType} {spMeta : Option md_EntityDescriptorType}
    {req relay sig alg binding : String} {sp : Option serviceprovider_ServiceProvider} :
    condStep (signatureRedirectVerificationNecessary o idp spMeta sig binding) (verifyRedirectSignature o req relay sig alg sp) = .ok none ↔
      (binding = redirectBinding → (spRequires spMeta || idpRequires idp || sig != "") = true →
        req ≠ "" ∧ sig ≠ "" ∧ alg ≠ "" ∧ o.m_ValidateRedirectSignature sp req relay alg sig = none) := by
  rw [sigRedirNec_eq, ← verifyRedirect_ok]
  by_cases hb : binding = redirectBinding
  · cases spRequires spMeta || idpRequires idp || sig != "" <;> simp [condStep, hb]
  · simp [condStep, hb]

open FnLemmas in
/-- step 8 passes iff the enveloped signature, wherever one is called for, verifies on the decoded document -/
theorem postStep_ok {o : Ora} {idp : Option md_IDPSSODescriptorType} {spMeta : Option md_EntityDescriptorType}
    {emb : Option xml_dsig_SignatureType} {req binding : String} {sp : Option serviceprovider_ServiceProvider} :
    condStep (signaturePostVerificationNecessary o idp spMeta emb binding) (verifyPostSignature o req sp) = .ok none ↔
      (binding = postBinding → (spRequires spMeta || idpRequires idp || embProvided emb) = true →
        ∃ data, Lib.b64decode req = some data ∧ o.m_ValidatePostSignature sp (Lib.bytesToString data) = none) := by
  rw [sigPostNec_eq, ← verifyPost_ok]
  by_cases hb : binding = postBinding
  · cases spRequires spMeta || idpRequires idp || embProvided emb <;> simp [condStep, hb]
  · simp [condStep, hb]

/-! ### the chain, stage by stage

  `sso` runs fifteen steps and stops at the first that fails.  `Found`, `Verified` and `Valid` say what is known once
  steps 1–5, 6–10 and 11–14 have passed; `Ends` lists the five ways a run can end, each with what had passed before.
  Everything the property files say about the model is read off `sso_ends`. -/

/-- steps 1–5 passed: the form was read, the request decoded, its issuer is registered -/
structure Found (i : In) (form : Form) (req : samlp_AuthnRequestType) (iss : saml_NameIDType)
    (sp : serviceprovider_ServiceProvider) : Prop where
  hmeta : i.metaErr = false
  hform : i.form = some form
  hreq : form.AuthRequest ≠ ""
  hsigalg : ¬ (form.SigAlg ≠ "" ∧ form.Sig = "")
  hdec : i.decoded = some req
  hiss : req.Issuer = some iss
  hsp : i.sp = some sp

/-- steps 6–10 passed: certificate and signatures checked, a consumer endpoint selected -/
structure Verified (o : Ora) (i : In) (form : Form) (req : samlp_AuthnRequestType) (sp : serviceprovider_ServiceProvider)
    (acsList : List md_IndexedEndpointType) (sel : String × String) : Prop where
  h6 : condStep (certificateCheckNecessary o req.Signature sp.Metadata) (checkCertificate o req.Signature sp.Metadata) = .ok none
  h7 : condStep (signatureRedirectVerificationNecessary o i.idpMeta sp.Metadata form.Sig form.Binding)
        (verifyRedirectSignature o form.AuthRequest form.RelayState form.Sig form.SigAlg (some sp)) = .ok none
  h8 : condStep (signaturePostVerificationNecessary o i.idpMeta sp.Metadata req.Signature form.Binding)
        (verifyPostSignature o form.AuthRequest (some sp)) = .ok none
  h9 : ∃ emb, signaturePostProvided o req.Signature = .ok emb ∧
        ¬ (form.Binding = postBinding ∧ form.Sig ≠ "") ∧ ¬ (form.Binding = redirectBinding ∧ emb = true)
  hacs : spAcs sp = some acsList
  hsel : GetAcsUrlAndBindingForResponse o acsList req.ProtocolBinding = .ok sel

/-- steps 11–14 passed: the selected endpoint can be answered and the request has its required content -/
structure Valid (o : Ora) (i : In) (req : samlp_AuthnRequestType) (sp : serviceprovider_ServiceProvider) (sel : String × String) : Prop where
  h11 : sel.1 ≠ ""
  h13 : sel.2 = redirectBinding ∨ sel.2 = postBinding
  h14 : checkRequestRequiredContent o i.idpMeta (some sp) (some req) = .ok none

/-- the one call of `storage.CreateAuthRequest` -/
def persistOf (i : In) (form : Form) (req : samlp_AuthnRequestType) (sp : serviceprovider_ServiceProvider) (sel : String × String) : Persist :=
  { acs := sel.1, binding := sel.2, relay := form.RelayState, appID := sp.ID, reqID := req.Id, ok := i.createOk }

inductive Ends (o : Ora) (i : In) : Result → Prop
  | http : i.metaErr = true → Ends o i { out := .httpError 500 }
  /-- rejected by one of steps 1–9: the reply goes into the HTTP body -/
  | early (n : Nat) (relay irt : String) : n < 10 → Ends o i { out := .failed n statusRequestDenied "" "" relay irt }
  /-- a helper of steps 6–14 panicked (`spAcs sp = none` makes the fifth cause hold vacuously) -/
  | panic {form req iss sp} : Found i form req iss sp →
      condStep (certificateCheckNecessary o req.Signature sp.Metadata) (checkCertificate o req.Signature sp.Metadata) = .panic ∨
      condStep (signatureRedirectVerificationNecessary o i.idpMeta sp.Metadata form.Sig form.Binding)
        (verifyRedirectSignature o form.AuthRequest form.RelayState form.Sig form.SigAlg (some sp)) = .panic ∨
      condStep (signaturePostVerificationNecessary o i.idpMeta sp.Metadata req.Signature form.Binding)
        (verifyPostSignature o form.AuthRequest (some sp)) = .panic ∨
      signaturePostProvided o req.Signature = .panic ∨
      (∀ l, spAcs sp = some l → GetAcsUrlAndBindingForResponse o l req.ProtocolBinding = .panic) ∨
      checkRequestRequiredContent o i.idpMeta (some sp) (some req) = .panic →
      Ends o i { out := .panic }
  /-- rejected by one of steps 11–14: the reply is delivered to the selected endpoint -/
  | late {form req iss sp acsList sel} (n : Nat) (st : String) : Found i form req iss sp → Verified o i form req sp acsList sel →
      n < 15 → st ≠ statusSuccess → Ends o i { out := .failed n st sel.1 sel.2 form.RelayState req.Id }
  /-- every check passed and the request was handed to storage: login if that worked, a Responder failure if not -/
  | persisted {form req iss sp acsList sel} : Found i form req iss sp → Verified o i form req sp acsList sel → Valid o i req sp sel →
      Ends o i { out := if i.createOk then .login i.createdID else .failed 15 statusResponder sel.1 sel.2 form.RelayState req.Id,
                 persist := some (persistOf i form req sp sel) }

theorem bindR_err (r : Res Err) (fail k : Result) :
    bindR r (fun e => if e.isSome then fail else k) =
      match r with
      | .panic => { out := .panic }
      | .ok (some _) => fail
      | .ok none => k := by
  cases r with
  | panic => rfl
  | ok e => cases e <;> rfl

theorem afterSel_ends {o : Ora} {i : In} {form : Form} {req : samlp_AuthnRequestType} {iss : saml_NameIDType}
    {sp : serviceprovider_ServiceProvider} {acsList : List md_IndexedEndpointType} {sel : String × String}
    (f : Found i form req iss sp) (v : Verified o i form req sp acsList sel) :
    Ends o i (ssoAfterSel o i form req sp sel.1 sel.2) := by
  unfold ssoAfterSel
  simp only [bindR_err]
  -- (`split` on an `if` would simplify the whole remaining chain; `by_cases` and `rw` touch only its head)
  by_cases h11 : (sel.1 == "") = true
  · rw [if_pos h11]; exact .late 11 _ f v (by decide) unsupportedBinding_ne_success
  rw [if_neg h11]
  by_cases h12 : (sel.2 == "") = true
  · rw [if_pos h12]; exact .late 12 _ f v (by decide) unsupportedBinding_ne_success
  rw [if_neg h12]
  by_cases h13 : (!(sel.2 == redirectBinding || sel.2 == postBinding)) = true
  · rw [if_pos h13]; exact .late 13 _ f v (by decide) unsupportedBinding_ne_success
  rw [if_neg h13]
  split
  next h => exact .panic f (.inr (.inr (.inr (.inr (.inr h)))))
  next => exact .late 14 _ f v (by decide) requestDenied_ne_success
  next h14 =>
  have hv : Valid o i req sp sel := ⟨by simpa using h11, Decidable.or_iff_not_imp_left.mpr (by simpa using h13), h14⟩
  cases hc : i.createOk <;> simpa [hc, persistOf] using Ends.persisted f v hv

theorem afterSp_ends {o : Ora} {i : In} {form : Form} {req : samlp_AuthnRequestType} {iss : saml_NameIDType}
    {sp : serviceprovider_ServiceProvider} (f : Found i form req iss sp) : Ends o i (ssoAfterSp o i form req sp) := by
  unfold ssoAfterSp
  simp only [bindR_err]
  split
  next h => exact .panic f (.inl h)
  next => exact .early 6 _ _ (by decide)
  next h6 =>
  split
  next h => exact .panic f (.inr (.inl h))
  next => exact .early 7 _ _ (by decide)
  next h7 =>
  split
  next h => exact .panic f (.inr (.inr (.inl h)))
  next => exact .early 8 _ _ (by decide)
  next h8 =>
  unfold bindR
  split
  next h => exact .panic f (.inr (.inr (.inr (.inl h))))
  next emb hemb =>
  dsimp only
  by_cases h9 : ((form.Binding == postBinding && form.Sig != "") || (form.Binding == redirectBinding && emb)) = true
  · rw [if_pos h9]; exact .early 9 _ _ (by decide)
  rw [if_neg h9]
  split
  next hnone => exact .panic f (.inr (.inr (.inr (.inr (.inl fun _ h => nomatch hnone.symm.trans h)))))
  next acsList hacs =>
  split
  next hp => exact .panic f (.inr (.inr (.inr (.inr (.inl fun l hl => by cases hacs.symm.trans hl; exact hp)))))
  next sel hsel =>
  exact afterSel_ends f ⟨h6, h7, h8, ⟨emb, hemb, by simpa using h9⟩, hacs, hsel⟩

theorem sso_ends (o : Ora) (i : In) : Ends o i (sso o i) := by
  unfold sso
  by_cases hmeta : i.metaErr = true
  · rw [if_pos hmeta]; exact .http hmeta
  rw [if_neg hmeta]
  split
  next => exact .early 1 _ _ (by decide)
  next form hform =>
  unfold ssoAfterForm
  by_cases hreq : (form.AuthRequest == "") = true
  · rw [if_pos hreq]; exact .early 2 _ _ (by decide)
  rw [if_neg hreq]
  by_cases hsigalg : (form.SigAlg != "" && form.Sig == "") = true
  · rw [if_pos hsigalg]; exact .early 3 _ _ (by decide)
  rw [if_neg hsigalg]
  split
  next => exact .early 4 _ _ (by decide)
  next req hdec =>
  split
  next => exact .early 5 _ _ (by decide)
  next iss hiss =>
  split
  next => exact .early 5 _ _ (by decide)
  next sp hsp =>
  exact afterSp_ends ⟨by simpa using hmeta, hform, by simpa using hreq, by simpa using hsigalg, hdec, hiss, hsp⟩

/-! the same, read forwards: passed steps can be skipped -/

theorem sso_of_found {o : Ora} {i : In} {form : Form} {req : samlp_AuthnRequestType} {iss : saml_NameIDType}
    {sp : serviceprovider_ServiceProvider} (f : Found i form req iss sp) : sso o i = ssoAfterSp o i form req sp := by
  have h3 : (form.SigAlg != "" && form.Sig == "") = false := Bool.eq_false_iff.mpr (by simpa using f.hsigalg)
  simp [sso, ssoAfterForm, f.hmeta, f.hform, f.hreq, h3, f.hdec, f.hiss, f.hsp]

theorem afterSp_of_verified {o : Ora} {i : In} {form : Form} {req : samlp_AuthnRequestType} {sp : serviceprovider_ServiceProvider}
    {acsList : List md_IndexedEndpointType} {sel : String × String} (v : Verified o i form req sp acsList sel) :
    ssoAfterSp o i form req sp = ssoAfterSel o i form req sp sel.1 sel.2 := by
  obtain ⟨emb, hemb, h9a, h9b⟩ := v.h9
  have h9 : ((form.Binding == postBinding && form.Sig != "") || (form.Binding == redirectBinding && emb)) = false :=
    Bool.eq_false_iff.mpr (by simpa using not_or.mpr ⟨h9a, h9b⟩)
  simp [ssoAfterSp, bindR, v.h6, v.h7, v.h8, hemb, h9, v.hacs, v.hsel]

theorem afterSel_of_valid {o : Ora} {i : In} {form : Form} {req : samlp_AuthnRequestType} {sp : serviceprovider_ServiceProvider}
    {sel : String × String} (hv : Valid o i req sp sel) :
    ssoAfterSel o i form req sp sel.1 sel.2 =
      { out := if i.createOk then .login i.createdID else .failed 15 statusResponder sel.1 sel.2 form.RelayState req.Id,
        persist := some (persistOf i form req sp sel) } := by
  have h12 : sel.2 ≠ "" := by rcases hv.h13 with h | h <;> rw [h] <;> decide
  have h13 : (sel.2 == redirectBinding || sel.2 == postBinding) = true := by simpa using hv.h13
  cases hc : i.createOk <;> simp [ssoAfterSel, bindR, hv.h11, h12, h13, hv.h14, hc, persistOf]

/-- whatever reaches storage has passed all fourteen checks, and the reply then depends on storage alone -/
theorem persisted_inv {o : Ora} {i : In} {p : Persist} (h : (sso o i).persist = some p) :
    ∃ form req iss sp acsList sel, Found i form req iss sp ∧ Verified o i form req sp acsList sel ∧ Valid o i req sp sel ∧
      p = persistOf i form req sp sel ∧
      (sso o i).out = if i.createOk then .login i.createdID else .failed 15 statusResponder sel.1 sel.2 form.RelayState req.Id := by
  have he := sso_ends o i
  generalize sso o i = r at he h
  cases he with
  | persisted f v hv => exact ⟨_, _, _, _, _, _, f, v, hv, by simpa using h.symm, rfl⟩
  | _ => simp at h

/-- Everything that is true when the SSO chain ends in the login redirect. -/
structure Accepted (o : Ora) (i : In) (id : String) (form : Form) (req : samlp_AuthnRequestType) (iss : saml_NameIDType)
    (sp : serviceprovider_ServiceProvider) (acsList : List md_IndexedEndpointType) (sel : String × String) : Prop
    extends Found i form req iss sp, Verified o i form req sp acsList sel, Valid o i req sp sel where
  hcreate : i.createOk = true
  hid : id = i.createdID
  hpersist : (sso o i).persist = some { acs := sel.1, binding := sel.2, relay := form.RelayState, appID := sp.ID, reqID := req.Id, ok := true }

theorem accepted_of_login {o : Ora} {i : In} {id : String} (h : (sso o i).out = .login id) :
    ∃ form req iss sp acsList sel, Accepted o i id form req iss sp acsList sel := by
  have he := sso_ends o i
  generalize hr : sso o i = r at he h
  cases he with
  | persisted f v hv =>
    cases hc : i.createOk with
    | false => simp [hc] at h
    | true =>
      simp only [hc, if_true, Out.login.injEq] at h
      exact ⟨_, _, _, _, _, _, f, v, hv, hc, h.symm, by rw [hr, persistOf, hc]⟩
  | _ => simp at h

end Sso
