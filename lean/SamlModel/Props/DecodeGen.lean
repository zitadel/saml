import SamlModel.Generated.Funcs
/-!
  Props.DecodeGen — `xml.DecodeAuthNRequest` and `xml.DecodeLogoutRequest` are *translated* (standalone: the handlers keep
  the oracle of the same name): base64 / DEFLATE through the generated `InflateAndDecode` (bounded inflation: C14), then
  `encoding/xml.Unmarshal` as a typed oracle that fills the freshly allocated struct; `xml.DecodeAttributeQuery` likewise,
  without the inflation.

  The specifications below make one clause of the handlers' environment contract (`EnvOK`: "a decoder that reports no
  error hands back a value") a theorem, given that the oracle the handler consults is the regenerated decoder
  (`AuthNDecoderIsGenerated`, `LogoutDecoderIsGenerated`).
-/
namespace DecodeGen
open Go Gen

theorem decodeAuthN_spec (o : Ora) (enc msg : String) :
    DecodeAuthNRequest o enc msg =
      match InflateAndDecode o enc true msg with
      | .panic => .panic
      | .ok (_, some e) => .ok (none, some e)
      | .ok (data, none) =>
        match o.f_Unmarshal_AuthnRequestType data with
        | (some e, _) => .ok (none, some e)
        | (none, req) => .ok (some req, none) := by
  unfold DecodeAuthNRequest DecodeAuthNRequest.body
  cases h : InflateAndDecode o enc true msg with
  | panic => simp
  | ok t =>
    obtain ⟨data, e⟩ := t
    cases e with
    | some e => simp
    | none =>
      rcases hu : o.f_Unmarshal_AuthnRequestType data with ⟨ue, req⟩
      cases ue <;> simp [hu]

theorem decodeLogout_spec (o : Ora) (enc msg : String) :
    DecodeLogoutRequest o enc msg =
      match InflateAndDecode o enc true msg with
      | .panic => .panic
      | .ok (_, some e) => .ok (none, some e)
      | .ok (data, none) =>
        match o.f_Unmarshal_LogoutRequestType data with
        | (some e, _) => .ok (none, some e)
        | (none, req) => .ok (some req, none) := by
  unfold DecodeLogoutRequest DecodeLogoutRequest.body
  cases h : InflateAndDecode o enc true msg with
  | panic => simp
  | ok t =>
    obtain ⟨data, e⟩ := t
    cases e with
    | some e => simp
    | none =>
      rcases hu : o.f_Unmarshal_LogoutRequestType data with ⟨ue, req⟩
      cases ue <;> simp [hu]

/-- **the regenerated decoder never reports success without a request** (and never an error together with one) -/
theorem decodeAuthN_value_iff_no_error {o : Ora} {enc msg : String} {r : Option samlp_AuthnRequestType} {e : Err}
    (h : DecodeAuthNRequest o enc msg = .ok (r, e)) : (e = none ↔ r.isSome) := by
  rw [decodeAuthN_spec] at h
  -- every leaf is an error without a value or a value without an error
  split at h
  · cases h
  · cases h; simp
  · split at h <;> cases h <;> simp

theorem decodeLogout_value_iff_no_error {o : Ora} {enc msg : String} {r : Option samlp_LogoutRequestType} {e : Err}
    (h : DecodeLogoutRequest o enc msg = .ok (r, e)) : (e = none ↔ r.isSome) := by
  rw [decodeLogout_spec] at h
  split at h
  · cases h
  · cases h; simp
  · split at h <;> cases h <;> simp

/-- **`xml.DecodeAttributeQuery` as regenerated**: the SOAP envelope is decoded by `encoding/xml` (typed oracle over the
    request's bytes) and what is returned is the AttributeQuery of its Body - possibly none, with no error: an envelope
    without AttributeQuery decodes (the handler's chain checks for it, AttrQueryGen); never a panic -/
theorem decodeAttributeQuery_spec (o : Ora) (request : String) :
    DecodeAttributeQuery o request =
      match o.f_Unmarshal_AttributeQueryEnvelope (Lib.stringToBytes request) with
      | (some e, _) => .ok (none, some e)
      | (none, env) => .ok (env.Body.AttributeQuery, none) := by
  unfold DecodeAttributeQuery DecodeAttributeQuery.body
  rcases hu : o.f_Unmarshal_AttributeQueryEnvelope (Lib.stringToBytes request) with ⟨ue, env⟩
  cases ue <;> simp [hu]

theorem decodeAttributeQuery_no_panic (o : Ora) (request : String) : DecodeAttributeQuery o request ≠ .panic := by
  rw [decodeAttributeQuery_spec]
  split <;> nofun

/-- an error never comes with a query -/
theorem decodeAttributeQuery_error_no_value (o : Ora) (request : String) (q : Option samlp_AttributeQueryType) (e : String)
    (h : DecodeAttributeQuery o request = .ok (q, some e)) : q = none := by
  rw [decodeAttributeQuery_spec] at h
  split at h <;> cases h
  rfl

/-- the decoder oracle the attribute-query handler consults is the regenerated decoder -/
def AttrQueryDecoderIsGenerated (o : Ora) : Prop :=
  ∀ request, DecodeAttributeQuery o request = .ok (o.f_DecodeAttributeQuery request)

/-- the decoder oracle the SSO handler consults is the regenerated decoder -/
def AuthNDecoderIsGenerated (o : Ora) : Prop :=
  ∀ enc msg, DecodeAuthNRequest o enc msg = .ok (o.f_DecodeAuthNRequest enc msg)

/-- ... then the first clause of `SsoGen.EnvOK` holds: it is a property of the library's decoder -/
theorem envOK_decode_of_generated (o : Ora) (h : AuthNDecoderIsGenerated o) :
    ∀ enc req, (o.f_DecodeAuthNRequest enc req).2 = none → (o.f_DecodeAuthNRequest enc req).1.isSome := by
  intro enc req hn
  exact (decodeAuthN_value_iff_no_error (h enc req)).mp hn

def LogoutDecoderIsGenerated (o : Ora) : Prop :=
  ∀ enc msg, DecodeLogoutRequest o enc msg = .ok (o.f_DecodeLogoutRequest enc msg)

theorem envOK_logout_decode_of_generated (o : Ora) (h : LogoutDecoderIsGenerated o) :
    ∀ enc req, (o.f_DecodeLogoutRequest enc req).2 = none → (o.f_DecodeLogoutRequest enc req).1.isSome := by
  intro enc req hn
  exact (decodeLogout_value_iff_no_error (h enc req)).mp hn

end DecodeGen
