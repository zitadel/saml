import SamlModel.Model.Sso
import SamlModel.Lemmas.ChainWalk
/-!
  The SSO model as a chain of verdicts.

  `Sso.sso` is written as nested code in three stages.  Read step by step it is a list of verdicts (`Go.Verdict`,
  Lemmas/ChainWalk.lean), and the first step that does not pass decides (`sso_eq_firstStop`).  That form is what the
  refinement proof of the regenerated handler walks along (`SsoGen`), one step of the translated chain against one verdict.

  A step after the one that produced the form, the decoded request, the service provider or the selected endpoint sees
  that value through `formV` … `selV`; where the producing step has already ended the request a default stands in,
  which nothing looks at.
-/
namespace Sso
open Go Gen Consts

/-- a nil dereference in translated code ends the request -/
abbrev panicked : Result := { out := .panic }

/-- a conditional logic step as a verdict: the condition decides whether the logic is looked at -/
theorem stopOnErr_condStep {ρ : Type} (p r : ρ) (C : Res Bool) (L : Res Err) :
    stopOnErr p (condStep C L) r = bindV p C fun c => bif c then stopOnErr p L r else .pass := by
  rcases C with (_ | _) | _ <;> rfl

section
variable (o : Ora) (i : In)

def formV : Form := i.form.getD default
def reqV : samlp_AuthnRequestType := i.decoded.getD default
def spV : serviceprovider_ServiceProvider := i.sp.getD default
def selV : String × String :=
  match spAcs (spV i) with
  | none => ("", "")
  | some l => (GetAcsUrlAndBindingForResponse o l (reqV i).ProtocolBinding).get

/-- the reply of a failing step (the delivery parameters stay empty until the endpoint has been selected) -/
def failed (n : Nat) (status acs binding reqID : String) : Result :=
  { out := .failed n status acs binding (formV i).RelayState reqID }

/-- the one call of `storage.CreateAuthRequest` -/
def persistV : Persist :=
  { acs := (selV o i).1, binding := (selV o i).2, relay := (formV i).RelayState, appID := (spV i).ID,
    reqID := (reqV i).Id, ok := i.createOk }

/-- the fifteen steps of the chain of `ssoHandleFunc`, in source order -/
def chainVerdicts : List (Verdict Result) :=
  let form := formV i; let req := reqV i; let sp := spV i; let sel := selV o i
  [ stopIf i.form.isNone { out := .failed 1 statusRequestDenied "" "" "" "" },
    stopIf (form.AuthRequest == "") (failed i 2 statusRequestDenied "" "" ""),
    stopIf (form.SigAlg != "" && form.Sig == "") (failed i 3 statusRequestDenied "" "" ""),
    stopIf i.decoded.isNone (failed i 4 statusRequestDenied "" "" ""),
    stopIf (req.Issuer.isNone || i.sp.isNone) (failed i 5 statusRequestDenied "" "" req.Id),
    stopOnErr panicked (condStep (certificateCheckNecessary o req.Signature sp.Metadata) (checkCertificate o req.Signature sp.Metadata))
      (failed i 6 statusRequestDenied "" "" req.Id),
    stopOnErr panicked (condStep (signatureRedirectVerificationNecessary o i.idpMeta sp.Metadata form.Sig form.Binding)
      (verifyRedirectSignature o form.AuthRequest form.RelayState form.Sig form.SigAlg (some sp)))
      (failed i 7 statusRequestDenied "" "" req.Id),
    stopOnErr panicked (condStep (signaturePostVerificationNecessary o i.idpMeta sp.Metadata req.Signature form.Binding)
      (verifyPostSignature o form.AuthRequest (some sp))) (failed i 8 statusRequestDenied "" "" req.Id),
    bindV panicked (signaturePostProvided o req.Signature) (fun emb =>
      stopIf ((form.Binding == postBinding && form.Sig != "") || (form.Binding == redirectBinding && emb))
        (failed i 9 statusRequestDenied "" "" req.Id)),
    (match spAcs sp with
      | none => .stop panicked
      | some l => bindV panicked (GetAcsUrlAndBindingForResponse o l req.ProtocolBinding) fun _ => .pass),
    stopIf (sel.1 == "") (failed i 11 statusUnsupportedBinding sel.1 sel.2 req.Id),
    stopIf (sel.2 == "") (failed i 12 statusUnsupportedBinding sel.1 sel.2 req.Id),
    stopIf (!(sel.2 == redirectBinding || sel.2 == postBinding)) (failed i 13 statusUnsupportedBinding sel.1 sel.2 req.Id),
    stopOnErr panicked (checkRequestRequiredContent o i.idpMeta (some sp) (some req)) (failed i 14 statusRequestDenied sel.1 sel.2 req.Id),
    stopIf (!i.createOk) { failed i 15 statusResponder sel.1 sel.2 req.Id with persist := some (persistV o i) } ]

/-- the metadata lookup, which precedes the chain, and the chain -/
def verdicts : List (Verdict Result) := stopIf i.metaErr { out := .httpError 500 } :: chainVerdicts o i

def loggedIn : Result := { out := .login i.createdID, persist := some (persistV o i) }

/-- **the SSO model is its chain of verdicts** -/
theorem sso_eq_firstStop : sso o i = firstStop (loggedIn o i) (verdicts o i) := by
  simp only [verdicts, chainVerdicts, stopOnErr, firstStop_stopIf, firstStop_bindV, sso, ssoAfterForm, ssoAfterSp, ssoAfterSel, bindR,
    failed, loggedIn, formV, reqV, spV, selV, persistV, panicked]
  -- down the nested code, one scrutinee at a time; every branch that ends the request is closed by `rfl`
  obtain ⟨metaErr, idpMeta, form, decoded, sp, createOk, createdID⟩ := i
  cases metaErr
  case true => rfl
  cases form with
  | none => rfl
  | some form =>
  cases decoded <;> simp only [Option.isNone_none, Option.isNone_some, Option.getD_some, Bool.cond_eq_ite]
  case none => rfl
  case some req =>
  cases req.Issuer <;> cases sp <;>
    simp only [Option.isNone_none, Option.isNone_some, Option.getD_some, Bool.or_true, Bool.or_false,
      if_true, if_false, Bool.false_eq_true]
  case some.some iss sp =>
  cases spAcs sp with
  | none => simp only [firstStop]; rfl
  | some l =>
    dsimp only
    cases GetAcsUrlAndBindingForResponse o l req.ProtocolBinding with
    | panic => simp only [firstStop_bindV]; rfl
    | ok sel => simp only [firstStop_bindV, firstStop_stopIf, firstStop, Bool.cond_eq_ite]; rfl

end
end Sso
