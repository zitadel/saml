import SamlModel.Lemmas.Builders
import SamlModel.Model.Metadata
import SamlModel.Props.MetadataLemmas
import SamlModel.Props.FnLemmas
import SamlModel.Props.SsoLemmas
/-!
  C11 — Published metadata matches what the IdP actually does.
-/
namespace C11
open Go Gen Metadata Consts

theorem rel_eq (o : Ora) (e : provider_Endpoint) : rel o e = "/" ++ Lib.trimPrefix e.path "/" := by
  rw [rel, Builders.endpointRelative_eq]; rfl

theorem abs_eq (o : Ora) (e : provider_Endpoint) (issuer : String) :
    abs o e issuer = if e.url ≠ "" then e.url else Lib.trimSuffix issuer "/" ++ ("/" ++ Lib.trimPrefix e.path "/") := by
  rw [abs, Builders.endpointAbsolute_eq]; rfl

/-- **C11 (locations).** For an endpoint configured by path, the advertised location is the issuer (without
    trailing slash) followed by exactly the route this provider registers for that handler. -/
theorem C11_location_is_issuer_plus_route (o : Ora) (e : provider_Endpoint) (issuer : String) (h : e.url = "") :
    abs o e issuer = Lib.trimSuffix issuer "/" ++ rel o e := by
  rw [abs_eq, rel_eq]; simp [h]

/-- the advertised SSO / SLO / attribute-service / entity-ID URLs of the metadata document -/
theorem C11_metadata_locations (o : Ora) (c : Cfg) (i : In) (d : Doc) (h : metadata o c i = .doc d) :
    d.entityID = abs o c.endpoints.metadataEp i.issuer ∧
    d.ssoLocations = [(redirectBinding, abs o c.endpoints.singleSignOn i.issuer), (postBinding, abs o c.endpoints.singleSignOn i.issuer)] ∧
    d.sloLocations = [(redirectBinding, abs o c.endpoints.singleLogout i.issuer), (postBinding, abs o c.endpoints.singleLogout i.issuer)] ∧
    d.attributeLocations = [(soapBinding, abs o c.endpoints.attributeEp i.issuer)] ∧
    d.wantAuthnRequestsSigned = c.wantSigned := by
  obtain ⟨cert, key, _, hd, _⟩ := metadata_doc o c i d h
  subst hd
  simp [docOf, entityID]

/-- each advertised path-configured location is served by the corresponding handler, provided the configured
    routes are pairwise distinct and differ from the two probe routes (the stated precondition: mux takes the first match) -/
def routesDistinct (o : Ora) (c : Cfg) : Prop := ((routes o c).map (·.1)).Nodup

theorem handlerOf_of_mem {rs : List (String × Handler)} (hnd : (rs.map (·.1)).Nodup) {k : String} {h : Handler}
    (hm : (k, h) ∈ rs) : handlerOf rs k = some h := by
  unfold handlerOf
  induction rs with
  | nil => cases hm
  | cons r rs ih =>
    simp only [List.map_cons, List.nodup_cons] at hnd
    rcases List.mem_cons.mp hm with rfl | hin
    · simp
    · -- `k` is the key of a later entry, so by `Nodup` not the key of `r`
      have hk : r.1 ≠ k := fun e => hnd.1 (e ▸ List.mem_map.mpr ⟨(k, h), hin, rfl⟩)
      simpa [List.find?_cons, hk] using ih hnd.2 hin

theorem C11_routes_serve (o : Ora) (c : Cfg) (hd : routesDistinct o c) :
    handlerOf (routes o c) (rel o c.endpoints.singleSignOn) = some .sso ∧
    handlerOf (routes o c) (rel o c.endpoints.singleLogout) = some .slo ∧
    handlerOf (routes o c) (rel o c.endpoints.attributeEp) = some .attributeQuery ∧
    handlerOf (routes o c) (rel o c.endpoints.certificate) = some .certificate ∧
    handlerOf (routes o c) (rel o c.endpoints.callback) = some .callback ∧
    handlerOf (routes o c) (rel o c.endpoints.metadataEp) = some .metadata := by
  refine ⟨?_, ?_, ?_, ?_, ?_, ?_⟩ <;> exact handlerOf_of_mem hd (by simp [routes])

/-- the default configuration satisfies the precondition -/
example (o : Ora) : routesDistinct o {} := by
  simp [routesDistinct, routes, rel_eq, Lib.trimPrefix]

/-- **C11 (one certificate).** The signing KeyDescriptor of the metadata, the certificate endpoint and the key the
    responses are signed with all come from the same `getResponseCert` call result. -/
theorem C11_one_certificate (o : Ora) (c : Cfg) (i : In) (d : Doc) (h : metadata o c i = .doc d) :
    ∃ cert key, getResponseCert o () = .ok (cert, key, none) ∧ ("signing", cert) ∈ d.keyDescriptors ∧
      certificate o = .pem cert ∧ (∀ kd ∈ d.keyDescriptors, kd.2 = cert) := by
  obtain ⟨cert, key, hk, hd, _⟩ := metadata_doc o c i d h
  subst hd
  refine ⟨cert, key, hk, by simp [docOf], by unfold certificate; simp [hk], ?_⟩
  intro kd hkd
  by_cases he : (c.encryptionAlgorithm != "") = true <;> simp [docOf, he] at hkd
  · rcases hkd with rfl | rfl <;> rfl
  · subst hkd; rfl

/-- signed metadata is served only when signing is configured and key retrieval and signing succeeded -/
theorem C11_signed_iff_configured (o : Ora) (c : Cfg) (i : In) (d : Doc) (h : metadata o c i = .doc d) :
    d.signed = c.signMetadata ∧ (d.signed = true → i.metaKeyOk = true ∧ i.signOk = true) := by
  obtain ⟨cert, key, _, hd, hs⟩ := metadata_doc o c i d h
  subst hd
  exact ⟨rfl, hs⟩

/-- **C11 (WantAuthnRequestsSigned).** If the advertised flag is an xs:boolean true ("true" or "1"), an SSO request
    without any signature is refused — for either binding.  (`hunsigned`: the XML-DSig validator, an oracle, does not
    accept the document that carries no signature — goxmldsig's behaviour, sampled by the harness.) -/
theorem C11_want_signed_means_refused (o : Ora) (i : Sso.In) (idp : md_IDPSSODescriptorType) (form : Sso.Form) (req : samlp_AuthnRequestType)
    (hidp : i.idpMeta = some idp) (hw : FnLemmas.xsTrue idp.WantAuthnRequestsSigned = true)
    (hf : i.form = some form) (hd : i.decoded = some req)
    (hb : form.Binding = redirectBinding ∨ form.Binding = postBinding)
    (hnosig : form.Sig = "")
    (hunsigned : ∀ sp data, Lib.b64decode form.AuthRequest = some data → o.m_ValidatePostSignature sp (Lib.bytesToString data) ≠ none) :
    ∀ id, (Sso.sso o i).out ≠ .login id := by
  intro id hl
  obtain ⟨form', req', iss, sp, acsList, sel, a⟩ := Sso.accepted_of_login hl
  cases hf.symm.trans a.hform
  cases hd.symm.trans a.hdec
  have hreq : FnLemmas.idpRequires i.idpMeta = true := by simp [hidp, FnLemmas.idpRequires, hw]
  rcases hb with hb | hb
  · exact (Sso.redirectStep_ok.mp a.h7 hb (by simp [hreq])).2.1 hnosig
  · obtain ⟨data, hdat, hv⟩ := Sso.postStep_ok.mp a.h8 hb (by simp [hreq])
    exact hunsigned _ _ hdat hv

/-- the flag is advertised verbatim: what `getMetadata` publishes is what the verification predicates read -/
theorem C11_flag_verbatim (o : Ora) (c : Cfg) (i : In) (d : Doc) (h : metadata o c i = .doc d) :
    FnLemmas.xsTrue d.wantAuthnRequestsSigned = FnLemmas.xsTrue c.wantSigned := by
  rw [(C11_metadata_locations o c i d h).2.2.2.2]

/-- **endpoint defaults are the generated ones**: `endpointConfigToEndpoints` as regenerated from identityprovider.go
    never panics; without configuration it yields the default paths the metadata model's `Endpoints` carries, and a
    configured endpoint replaces exactly its own default -/
theorem C11_endpoint_defaults (o : Ora) :
    Gen.endpointConfigToEndpoints o none = .ok (some {
      certificateEndpoint := (default : Metadata.Endpoints).certificate, callbackEndpoint := (default : Metadata.Endpoints).callback,
      singleSignOnEndpoint := (default : Metadata.Endpoints).singleSignOn, singleLogoutEndpoint := (default : Metadata.Endpoints).singleLogout,
      attributeEndpoint := (default : Metadata.Endpoints).attributeEp }) ∧
    ∀ c : Gen.provider_EndpointConfig, ∃ e, Gen.endpointConfigToEndpoints o (some c) = .ok (some e) ∧
      e.singleSignOnEndpoint = c.SingleSignOn.getD { path := "SSO" } ∧ e.singleLogoutEndpoint = c.SingleLogOut.getD { path := "SLO" } ∧
      e.attributeEndpoint = c.Attribute.getD { path := "attribute" } ∧ e.certificateEndpoint = c.Certificate.getD { path := "certificate" } ∧
      e.callbackEndpoint = c.Callback.getD { path := "login" } := by
  constructor
  · rw [Builders.endpointConfigToEndpoints_eq]; rfl
  · intro c
    exact ⟨_, Builders.endpointConfigToEndpoints_eq o (some c), by simp, by simp, by simp, by simp, by simp⟩

theorem C11_source_current :
    FactsUtil.sameHashes ["provider.IdentityProvider.GetRoutes",
      "provider.CreateRouter", "provider.NewProvider", "provider.NewIdentityProvider",
      "provider.intercept", "provider.IssuerInterceptor.setIssuerCtx"] = true := by decide +kernel

end C11
