import SamlModel.Model.Callback
import SamlModel.Props.HandlerGen
import SamlModel.Lemmas.GoSem
import SamlModel.Props.CallbackLemmas
import SamlModel.Model.FactsUtil
/-!
  C01 — No Success assertion without completed authentication.
-/
namespace C01
open Go Gen Callback Consts

/-- the reply carries a Response with status Success -/
def successOut (out : Out) : Prop := ∃ d m s, out = .reply d m s ∧ m.status = statusSuccess

/-- **C01 (only if).** A Success reply implies the whole positive path: an id was given, the stored request
    exists and reports `Done()`, the audience lookup, user-info retrieval, signing-key retrieval and signing
    all succeeded. -/
theorem C01_success_only_if_done (o : Ora) (i : In) (h : successOut (callback o i)) :
    i.parseErr = false ∧ i.id ≠ "" ∧ ∃ rec, i.stored = some rec ∧ rec.done = true ∧
      i.entity.isSome ∧ i.userinfo.isSome ∧ i.signOk = true ∧
      ∃ cert key, getResponseCert o () = .ok (cert, key, none) := by
  obtain ⟨d, m, s, hout, hst⟩ := h
  obtain ⟨rec, aud, attrs, c, k, w, -⟩ := succeeded hout hst
  exact ⟨w.hparse, w.hid, rec, w.hrec, w.hdone, by simp [w.hent], by simp [w.hui], w.hsign, c, k, w.hkey⟩

/-- **C01 (every other case).** A reply whose status is not Success contains no assertion at all — no
    subject identifier, no attribute — and no signature. -/
theorem C01_no_leak (o : Ora) (i : In) (d : Delivery) (m : Msg) (s : Sig) (h : callback o i = .reply d m s)
    (hns : m.status ≠ statusSuccess) : m.assertion = none ∧ s = .none := by
  have he := callback_ends o i
  rw [h] at he
  cases he with
  | unknown _ => exact ⟨rfl, rfl⟩
  | failed _ _ _ _ _ => exact ⟨rfl, rfl⟩
  | success => exact absurd rfl hns

/-- a Success status and an assertion always come together, and then the reply is signed -/
theorem C01_success_has_signed_assertion (o : Ora) (i : In) (d : Delivery) (m : Msg) (s : Sig)
    (h : callback o i = .reply d m s) (hs : m.status = statusSuccess) : m.assertion.isSome ∧ s ≠ .none := by
  obtain ⟨rec, _, _, _, _, -, -, rfl, rfl⟩ := succeeded h hs
  exact ⟨rfl, by unfold sigStyle; split <;> simp⟩

/-- user data is not even looked at before the gate: for a request that is not done, the reply does not
    depend on what user-info retrieval, key retrieval or signing would answer -/
theorem C01_pending_independent_of_user (o o' : Ora) (i : In) (rec : Rec) (hr : i.stored = some rec) (hd : rec.done = false)
    (u : Option provider_Attributes) (b : Bool) :
    callback o' { i with userinfo := u, signOk := b } = callback o i := by
  unfold callback
  simp [hr, hd, failedMsg]

/-- operations of the system: `accept` = the SSO endpoint persisted a request under `id`; `complete` = the
    login UI marked it done (only storage does this); `callback` = the callback endpoint is called with `id`
    and whatever downstream oracles answer -/
inductive SysOp where
  | accept (id : String) (rec : Rec)
  | complete (id : String)
  | callback (id : String) (entity : Option String) (userinfo : Option provider_Attributes) (signOk : Bool) (o : Ora)

abbrev Store := String → Option Rec

def stepStore (st : Store) : SysOp → Store
  | .accept id rec => fun k => if k = id then some { rec with done := false } else st k
  | .complete id => fun k => if k = id then (st id).map (fun r => { r with done := true }) else st k
  | .callback .. => st

/-- reply of one callback call in store `st` -/
def callbackIn (st : Store) (id : String) (entity : Option String) (userinfo : Option provider_Attributes) (signOk : Bool) (o : Ora) : Out :=
  callback o { id := id, stored := st id, entity := entity, userinfo := userinfo, signOk := signOk }

def storeAfter (ops : List SysOp) : Store := ops.foldl stepStore (fun _ => none)

/-- what the history `pre` shows about a record `r` stored under `id`: an `accept` created it, and if it is `done` a
    `complete` for it follows that `accept` -/
private def Seen (pre : List SysOp) (id : String) (r : Rec) : Prop :=
  (∃ (n : Nat) (rec : Rec), pre[n]? = some (SysOp.accept id rec)) ∧
  (r.done = true → ∃ (n m : Nat) (rec : Rec), n < m ∧ pre[n]? = some (SysOp.accept id rec) ∧ pre[m]? = some (SysOp.complete id))

private theorem getElem?_append_of_some {α} {pre : List α} {n : Nat} {x : α} (h : pre[n]? = some x) (l : List α) :
    (pre ++ l)[n]? = some x := by
  rw [List.getElem?_append_left (List.getElem?_eq_some_iff.mp h).1]; exact h

private theorem Seen.append {pre : List SysOp} {id : String} {r : Rec} (h : Seen pre id r) (op : SysOp) : Seen (pre ++ [op]) id r := by
  obtain ⟨⟨n, rec, hn⟩, h2⟩ := h
  refine ⟨⟨n, rec, getElem?_append_of_some hn _⟩, fun hd => ?_⟩
  obtain ⟨n, m, rec, hnm, ha, hc⟩ := h2 hd
  exact ⟨n, m, rec, hnm, getElem?_append_of_some ha _, getElem?_append_of_some hc _⟩

private theorem seen_step (pre : List SysOp) (st : Store) (op : SysOp) (hinv : ∀ id r, st id = some r → Seen pre id r) :
    ∀ id r, stepStore st op id = some r → Seen (pre ++ [op]) id r := by
  intro id r h
  cases op with
  | accept id' rec' =>
    simp only [stepStore] at h
    by_cases hk : id = id'
    · subst hk
      rw [if_pos rfl] at h; cases h
      exact ⟨⟨pre.length, rec', by simp⟩, nofun⟩
    · rw [if_neg hk] at h
      exact (hinv id r h).append _
  | complete id' =>
    simp only [stepStore] at h
    by_cases hk : id = id'
    · subst hk
      rw [if_pos rfl] at h
      obtain ⟨r0, hr0, _⟩ := Option.map_eq_some_iff.mp h
      -- the record was there, so an `accept` is in `pre`; the `complete` now added follows it
      obtain ⟨⟨n, rec, hn⟩, _⟩ := hinv id r0 hr0
      exact ⟨⟨n, rec, getElem?_append_of_some hn _⟩,
        fun _ => ⟨n, pre.length, rec, (List.getElem?_eq_some_iff.mp hn).1, getElem?_append_of_some hn _, by simp⟩⟩
    · rw [if_neg hk] at h
      exact (hinv id r h).append _
  | callback id' e u b o => exact (hinv id r h).append _

private theorem seen_fold (ops : List SysOp) : ∀ (pre : List SysOp) (st : Store), (∀ id r, st id = some r → Seen pre id r) →
    ∀ id r, ops.foldl stepStore st id = some r → Seen (pre ++ ops) id r := by
  induction ops with
  | nil => intro pre st h; simpa using h
  | cons op ops ih =>
    intro pre st h
    simpa [List.append_assoc] using ih (pre ++ [op]) (stepStore st op) (seen_step pre st op h)

/-- **C01 (histories).** In any history — any number of sessions, any interleaving — a callback call that
    answers Success for `id` is preceded by an `accept` of `id` and, after it, a `complete` of `id`. -/
theorem C01_history (ops : List SysOp) (id : String) (entity : Option String) (userinfo : Option provider_Attributes)
    (signOk : Bool) (o : Ora) (h : successOut (callbackIn (storeAfter ops) id entity userinfo signOk o)) :
    ∃ (n m : Nat) (rec : Rec), n < m ∧ m < ops.length ∧ ops[n]? = some (SysOp.accept id rec) ∧ ops[m]? = some (SysOp.complete id) := by
  obtain ⟨_, _, rec, hrec, hdone, _⟩ := C01_success_only_if_done o _ h
  obtain ⟨n, m, r, hnm, ha, hc⟩ := (seen_fold ops [] _ (fun _ _ h => by simp at h) id rec hrec).2 hdone
  exact ⟨n, m, r, hnm, (List.getElem?_eq_some_iff.mp hc).1, by simpa using ha, by simpa using hc⟩

/-! `loginResponse` is regenerated from login.go on every run (`Gen.IdentityProvider_loginResponse`); Props.CallbackGen
  links it to the callback model.  Restated here as obligations of this property. -/

/-- **the gate, on the generated function itself**: for every provider value, every `Response` and every answer of the
    other oracles, the generated `loginResponse` hands back a response only if `Done()` answered true; otherwise its
    result is the error `AuthnFailed` and nothing else was computed from user data -/
theorem C01_generated_gate (o : Gen.Ora) (p : Option Gen.provider_IdentityProvider) (resp : Option Gen.provider_Response)
    (h : o.m_Done = false) :
    Gen.IdentityProvider_loginResponse o p () resp = .ok (none, some Consts.statusAuthnFailed, resp) := by
  simp only [Gen.IdentityProvider_loginResponse, Gen.IdentityProvider_loginResponse.body, gosem, h, Consts.statusAuthnFailed]

/-- whenever the generated `loginResponse` returns an error, the callback model's reply is a failed Response with exactly
    that status, no assertion, unsigned -/
theorem C01_generated_failure (o : Gen.Ora) (cfg : Gen.provider_IdentityProviderConfig) (fmt : String) (exp : Int)
    (issuer id : String) (rec : Callback.Rec) (aud : String) (ids : Nat → String) (hid : id ≠ "")
    (hdone : o.m_Done = rec.done) (hsome : (CallbackGen.userinfo o).1 = none → (CallbackGen.userinfo o).2.isSome)
    (status : String) (r' : Option Gen.provider_Response)
    (hgen : Gen.IdentityProvider_loginResponse o (CallbackGen.idp cfg fmt exp) () (some (CallbackGen.respOf issuer rec aud)) = .ok (none, some status, r')) :
    ∃ m, Callback.callback o (CallbackGen.inOf o cfg fmt exp issuer id rec aud ids) =
        .reply (Callback.deliver rec.acs rec.binding rec.relay) m .none ∧
      m.status = status ∧ m.assertion = none ∧ m.inResponseTo = rec.reqID ∧ m.destination = rec.acs ∧ m.issuer = issuer :=
  CallbackGen.generated_failure o cfg fmt exp issuer id rec aud ids hid hdone hsome status r' hgen

/-- whenever the generated `loginResponse` returns a response, it is the Success message the callback model delivers,
    and the stored request was completed -/
theorem C01_generated_success (o : Gen.Ora) (cfg : Gen.provider_IdentityProviderConfig) (fmt : String) (exp : Int)
    (issuer id : String) (rec : Callback.Rec) (aud : String) (ids : Nat → String) (hid : id ≠ "")
    (hdone : o.m_Done = rec.done) (hsome : (CallbackGen.userinfo o).1 = none → (CallbackGen.userinfo o).2.isSome)
    (hid0 : ids 0 = o.newID "Response_makeAssertionResponse" 0) (hid1 : ids 1 = o.newID "makeAssertion" 0)
    (r : Gen.samlp_ResponseType) (r' : Option Gen.provider_Response)
    (hgen : Gen.IdentityProvider_loginResponse o (CallbackGen.idp cfg fmt exp) () (some (CallbackGen.respOf issuer rec aud)) = .ok (some r, none, r')) :
    Callback.callback o (CallbackGen.inOf o cfg fmt exp issuer id rec aud ids) =
      .reply (Callback.deliver rec.acs rec.binding rec.relay) (Builders.msgOf r (Builders.assertionOf r.Assertion))
        (Callback.sigStyle rec.acs rec.binding) ∧ rec.done = true :=
  CallbackGen.generated_success o cfg fmt exp issuer id rec aud ids hid hdone hsome hid0 hid1 r r' hgen

/-- **C01 on the regenerated handler.**  `IdentityProvider.callbackHandleFunc` as go2lean regenerates it from login.go on
    this run (`Props.HandlerGen`): whatever the request, the storage, the key getter, the signer, the clock and the
    identifier source answer, if the handler writes a Response whose status is Success then the request carried an id,
    the storage knew it and the stored request answered `Done()` = true; and a Response with any other status carries no
    assertion at all.  Nothing is written besides that one Response (`HandlerGen.handler_writes_once`). -/
theorem C01_generated_handler (o : Gen.Ora) (cfg : Gen.provider_IdentityProviderConfig) (fmt : String) (exp : Int)
    (hsome : (CallbackGen.userinfo o).1 = none → (CallbackGen.userinfo o).2.isSome)
    (resp : Gen.provider_Response) (m : Gen.samlp_ResponseType)
    (ht : Gen.IdentityProvider_callbackHandleFunc o (CallbackGen.idp cfg fmt exp) = .ok [Gen.Eff.sendBackResponse (some resp) (some m)]) :
    (m.Status.StatusCode.Value = statusSuccess →
      o.formGet "id" ≠ "" ∧ (o.m_AuthRequestByID (o.formGet "id")).2 = none ∧ o.m_Done = true) ∧
    (m.Status.StatusCode.Value ≠ statusSuccess → Builders.assertionOf m.Assertion = none) := by
  have h := HandlerGen.reply_of_wrote o cfg fmt exp hsome ht
  constructor
  · intro hs
    obtain ⟨_, hid, rec, hrec, hdone, _⟩ := C01_success_only_if_done o (HandlerGen.inOfOra o cfg fmt exp) ⟨_, _, _, h, hs⟩
    obtain ⟨hl, rfl⟩ := HandlerGen.stored_eq_some.mp hrec
    exact ⟨hid, hl, hdone⟩
  · intro hns
    exact (C01_no_leak o (HandlerGen.inOfOra o cfg fmt exp) _ _ _ h hns).1

theorem C01_source_current : Consts.current = true ∧
    FactsUtil.sameHashes ["provider.NewID"] = true := ⟨Consts.current_true, FactsUtil.newID_current⟩

/-- non-vacuity: a done record with all oracles succeeding yields a signed Success reply; a pending one AuthnFailed -/
def okOra : Ora where
  now := 0
  timeParse := fun _ _ => none
  m_ValidateRedirectSignature := fun _ _ _ _ _ => none
  m_ValidatePostSignature := fun _ _ => none
  urlParse := fun _ => none
  inflate := fun _ => {}
  m_GetResponseSigningKey := (some { Certificate := [1], Key := some {} }, none)
def recDone : Rec := { reqID := "r1", binding := postBinding, acs := "https://sp/acs", appID := "app", userID := "u", done := true }
def inDone (done : Bool) : In := { id := "x", stored := some { recDone with done := done }, entity := some "sp", userinfo := some { username := "alice" } }
example : (match callback okOra (inDone true) with
    | .reply (.postForm a _) m s => m.status == statusSuccess && s == Sig.enveloped && a == "https://sp/acs" && m.assertion.isSome
    | _ => false) = true := by decide +kernel
example : (match callback okOra (inDone false) with
    | .reply _ m s => m.status == statusAuthnFailed && s == Sig.none && m.assertion.isNone
    | _ => false) = true := by decide +kernel

/-- non-vacuity of `C01_generated_handler`: an environment in which the regenerated handler runs through to a signed
    Success, and the same environment with `Done()` = false, where it answers AuthnFailed without an assertion -/
def okOraH (done : Bool) : Ora :=
  { okOra with
    formGet := fun _ => "x"
    m_Done := done
    m_GetBindingType := postBinding
    m_GetAccessConsumerServiceURL := "https://sp/acs"
    m_SetUserinfoWithUserID := fun _ _ _ => (none, some { username := "alice" }) }
example : (match HandlerGen.outOf (IdentityProvider_callbackHandleFunc (okOraH true) (CallbackGen.idp {} "f" 5)) with
    | some (.reply (.postForm a _) m s) => m.status == statusSuccess && s == Sig.enveloped && a == "https://sp/acs" && m.assertion.isSome
    | _ => false) = true := by decide +kernel
example : (match HandlerGen.outOf (IdentityProvider_callbackHandleFunc (okOraH false) (CallbackGen.idp {} "f" 5)) with
    | some (.reply (.postForm _ _) m s) => m.status == statusAuthnFailed && s == Sig.none && m.assertion.isNone
    | _ => false) = true := by decide +kernel
example : (CallbackGen.userinfo (okOraH true)).1 = none → (CallbackGen.userinfo (okOraH true)).2.isSome := by decide +kernel

end C01
