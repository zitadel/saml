import SamlModel.Lemmas.Redirect
import SamlModel.Generated.Funcs
/-!
  Props.RedirectSigGen — `ServiceProvider.ValidateRedirectSignature` (serviceprovider.go) is *translated*: the octets the
  signature of a Redirect-binding AuthnRequest is checked over are assembled by the regenerated code
  (`url.QueryEscape` is `Lib.queryEscape`, `signature.ValidateRedirect` - the RSA / DSA verification - a typed oracle).

  * `validateRedirect_spec`: the regenerated function refuses when no signing key is registered or the Signature
    parameter is not base64, and otherwise asks the verifier about exactly `octets request relayState sigAlg`.
  * `octets_injective`: those octets determine the three values - a signature that verifies covers exactly the
    request content, the RelayState and the algorithm the endpoint then acts on (C05), nothing can be traded between them.
-/
namespace RedirectSigGen
open Go Gen Lib.Url Redirect

def kSAMLRequest : List Char := ['S', 'A', 'M', 'L', 'R', 'e', 'q', 'u', 'e', 's', 't']

/-- as `octets` below, with RelayState included iff it is non-empty rather than iff its escaped form is (saml-bindings
    3.4.4.1, request side); no theorem uses it -/
def signedOctets (req relay alg : String) : List Char :=
  renderParams ((kSAMLRequest, E req) :: (opt kRelayState relay ++ [(kSigAlg, E alg)]))

/-- RelayState is signed iff its escaped form is not empty (`url.QueryEscape(relayState) != ""`) -/
def optRelay (relay : String) : List (List Char × List Char) :=
  if Lib.queryEscape relay ≠ "" then [(kRelayState, E relay)] else []

/-- the octets over which a Redirect-binding request signature is checked -/
def octets (req relay alg : String) : List Char :=
  renderParams ((kSAMLRequest, E req) :: (optRelay relay ++ [(kSigAlg, E alg)]))

theorem octets_params (req relay alg : String) :
    params (octets req relay alg) = (kSAMLRequest, E req) :: (optRelay relay ++ [(kSigAlg, E alg)]) := by
  exact params_render _ (by simp) (Clean.append (.one (by decide) req)
    (.append (.ite (keys_clean _ (by simp)) relay _) (.one (keys_clean _ (by simp)) alg)))

/-- **the signed octets determine what was signed**: equal octets mean the same request content, the same algorithm and
    - whenever a RelayState is covered at all - the same RelayState; and a covered RelayState is never confused with an
    absent one -/
theorem octets_injective (r1 s1 a1 r2 s2 a2 : String) (h : octets r1 s1 a1 = octets r2 s2 a2) :
    r1 = r2 ∧ a1 = a2 ∧ optRelay s1 = optRelay s2 ∧ (Lib.queryEscape s1 ≠ "" → s1 = s2) := by
  have hp := congrArg params h
  rw [octets_params, octets_params] at hp
  have hk : kRelayState ≠ kSigAlg := by decide
  simp only [List.cons.injEq, Prod.mk.injEq, true_and] at hp
  obtain ⟨hr, hrest⟩ := hp
  have hr' := E_inj hr
  by_cases h1 : Lib.queryEscape s1 = "" <;> by_cases h2 : Lib.queryEscape s2 = "" <;>
    simp [optRelay, h1, h2, hk, hk.symm] at hrest ⊢
  · exact ⟨hr', E_inj hrest⟩
  · exact ⟨hr', E_inj hrest.2, hrest.1, E_inj hrest.1⟩

theorem octets_toString (req relay alg : String) :
    (if Lib.queryEscape relay ≠ "" then "SAMLRequest=" ++ Lib.queryEscape req ++ "&RelayState=" ++ Lib.queryEscape relay ++ "&SigAlg=" ++ Lib.queryEscape alg
     else "SAMLRequest=" ++ Lib.queryEscape req ++ "&SigAlg=" ++ Lib.queryEscape alg) = String.ofList (octets req relay alg) := by
  apply String.toList_inj.mp
  have k0 : "SAMLRequest=".toList = kSAMLRequest ++ ['='] := by decide
  by_cases h : Lib.queryEscape relay = ""
  · simp [octets, optRelay, h, renderParams, queryEscape_toList, k0, k4]
  · simp [octets, optRelay, h, renderParams, queryEscape_toList, k0, k2, k4]

/-- **`ValidateRedirectSignature` as regenerated from serviceprovider.go**: refuses without a registered key or with a
    Signature parameter that is not base64, and otherwise hands exactly `octets request relayState sigAlg`, the decoded
    signature and the registered key to the verifier -/
theorem validateRedirect_spec (o : Ora) (sp : serviceprovider_ServiceProvider) (req relay alg sig : String) :
    ServiceProvider_ValidateRedirectSignature o (some sp) req relay alg sig =
      .ok (if sp.signerPublicKey.isNone then some "error can not validate signature if no certificate is present for this service provider"
           else match Lib.b64decode sig with
             | none => some "base64"
             | some sv => o.f_ValidateRedirect alg (Lib.stringToBytes (String.ofList (octets req relay alg))) sv sp.signerPublicKey) := by
  unfold ServiceProvider_ValidateRedirectSignature ServiceProvider_ValidateRedirectSignature.body
  have ho := octets_toString req relay alg
  by_cases hk : sp.signerPublicKey.isNone = true
  · simp [hk]
  · by_cases hr : Lib.queryEscape relay = "" <;> cases hd : Lib.b64decode sig <;>
      simp [hk, hr, hd, ← ho]

end RedirectSigGen
