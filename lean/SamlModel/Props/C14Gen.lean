import SamlModel.Props.C14
import SamlModel.Props.DecodeGen
import SamlModel.Props.SsoProps
import SamlModel.Props.LogoutProps
/-!
  C14 on the regenerated decoders and handlers.  `xml.DecodeAuthNRequest` / `xml.DecodeLogoutRequest` are translated on
  every run (DecodeGen): the only inflation they perform is the one of the generated `InflateAndDecode`, so the bound and
  the rejection proved there (C14_bounded, C14_overflow_rejected) carry over; and the regenerated `ssoHandleFunc` /
  `logoutHandleFunc`, which consult the decoders, do not accept a request whose payload inflates past the cap.
-/
namespace C14
open Go Gen Consts

/-- **C14 (decoder level, AuthnRequest).**  A DEFLATE payload that would inflate past the cap is an error of the
    regenerated decoder: no request value is produced and `xml.Unmarshal` is never consulted. -/
theorem C14_generated_decodeAuthN_rejects (o : Ora) (msg : String) (data : Lib.Bytes) (h : payloadBytes true msg = some data)
    (hbig : (o.inflate data).data.length > cap) :
    ∃ e, DecodeAuthNRequest o encodingDeflate msg = .ok (none, some e) := by
  obtain ⟨e, he⟩ := C14_overflow_rejected o true msg data h hbig
  exact ⟨e, by rw [DecodeGen.decodeAuthN_spec, he]⟩

/-- **C14 (decoder level, LogoutRequest).** -/
theorem C14_generated_decodeLogout_rejects (o : Ora) (msg : String) (data : Lib.Bytes) (h : payloadBytes true msg = some data)
    (hbig : (o.inflate data).data.length > cap) :
    ∃ e, DecodeLogoutRequest o encodingDeflate msg = .ok (none, some e) := by
  obtain ⟨e, he⟩ := C14_overflow_rejected o true msg data h hbig
  exact ⟨e, by rw [DecodeGen.decodeLogout_spec, he]⟩

/-- what the decoders hand to `xml.Unmarshal` is at most `cap` bytes: a decoded request comes from a bounded buffer -/
theorem C14_generated_decodeAuthN_unmarshals_bounded (o : Ora) (msg : String) (data : Lib.Bytes) (h : payloadBytes true msg = some data)
    (req : samlp_AuthnRequestType) (hd : DecodeAuthNRequest o encodingDeflate msg = .ok (some req, none)) :
    (o.inflate data).data.length ≤ cap := by
  apply Nat.le_of_not_gt
  intro hbig
  obtain ⟨e, he⟩ := C14_generated_decodeAuthN_rejects o msg data h hbig
  exact nomatch he.symm.trans hd

/-- **C14 on the regenerated SSO handler.**  With the decoder the library has (`AuthNDecoderIsGenerated`: the oracle the
    handler consults is the regenerated `DecodeAuthNRequest`), a DEFLATE request the handler accepts (login redirect) did
    not inflate past the cap — an over-sized payload is never accepted. -/
theorem C14_generated_sso_handler (o : Ora) (cfg : provider_IdentityProviderConfig) (fmt : String) (exp : Int)
    (henv : SsoGen.EnvOK o cfg fmt exp) (hdec : DecodeGen.AuthNDecoderIsGenerated o) (h : SsoGen.Redirected o cfg fmt exp)
    (henc : (SsoGen.theForm o).Encoding = encodingDeflate) (data : Lib.Bytes)
    (hp : payloadBytes true (SsoGen.theForm o).AuthRequest = some data) :
    (o.inflate data).data.length ≤ cap := by
  obtain ⟨form, req, sp, _, _, _, hreq, _⟩ := C06.C06_generated_handler o cfg fmt exp henv h
  apply Nat.le_of_not_gt
  intro hbig
  obtain ⟨e, he⟩ := C14_generated_decodeAuthN_rejects o _ data hp hbig
  have h2 : o.f_DecodeAuthNRequest encodingDeflate (SsoGen.theForm o).AuthRequest = (none, some e) :=
    Res.ok.inj ((hdec _ _).symm.trans he)
  unfold SsoGen.decodedOf at hreq
  rw [henc, h2] at hreq
  simp at hreq

/-- **C14 on the regenerated logout handler.**  A DEFLATE LogoutRequest whose payload inflates past the cap is not a
    valid request of the handler: no Success response is produced for it. -/
theorem C14_generated_logout_handler (o : Ora) (cfg : provider_IdentityProviderConfig) (fmt : String) (exp : Int)
    (henv : LogoutGen.EnvOK o cfg fmt exp) (hwf : C13.StorageWF o cfg fmt exp) (hdec : DecodeGen.LogoutDecoderIsGenerated o)
    (hform : o.m_ParseForm = none) (henc : (LogoutGen.theForm o).Encoding = encodingDeflate) (data : Lib.Bytes)
    (hp : payloadBytes true (LogoutGen.theForm o).LogoutRequest = some data) (hbig : (o.inflate data).data.length > cap) :
    ¬ ∃ resp m, IdentityProvider_logoutHandleFunc o (CallbackGen.idp cfg fmt exp) = .ok [Eff.sendBackLogoutResponse (some resp) (some m)] ∧
        m.Status.StatusCode.Value = statusSuccess := by
  rw [C13.C13_generated_success_iff o cfg fmt exp henv hwf]
  rintro ⟨req, sp, _, hd, _⟩
  obtain ⟨e, he⟩ := C14_generated_decodeLogout_rejects o _ data hp hbig
  have h2 : o.f_DecodeLogoutRequest encodingDeflate (LogoutGen.theForm o).LogoutRequest = (none, some e) :=
    Res.ok.inj ((hdec _ _).symm.trans he)
  have hd' : LogoutGen.decodedOf o = some req := hd
  unfold LogoutGen.decodedOf at hd'
  rw [LogoutGen.formOf_ok o hform] at hd'
  simp only [henc, h2] at hd'
  simp at hd'

end C14
