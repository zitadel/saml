import SamlModel.Lemmas.HtmlTok
import SamlModel.Generated.Facts
import SamlModel.Model.Expected
import SamlModel.Model.FactsUtil
/-!
  C17 — Auto-submit pages cannot be altered by request-controlled values.

  Model: `Lib.HtmlTok.page lits url relay msg` is what `Template.Execute` writes — the literal segments of the
  template *as go2lean reads them from pkg/provider/template.go on every run* (`Gen.Facts.postTemplateLits`,
  `logoutTemplateLits`) with `urlAttr url`, `attrEscape relay`, `attrEscape msg` in the holes (byte-exact models of
  html/template's `_html_template_urlfilter | _html_template_urlnormalizer | _html_template_attrescaper` and
  `_html_template_attrescaper`; the correspondence check compares `page` with the bytes the real handlers and the
  real templates produce).  `Lib.HtmlTok.tokenize` is an HTML tokenizer written from the WHATWG description.
-/
namespace C17
open Lib.Html Lib.HtmlTok

/-- the event stream of the page: everything is fixed but three attribute values -/
def pageEvents (scripting : Bool) (u r m : Lib.Bytes) : List Event :=
  [.open b!"html", .attr b!"xmlns" b!"http://www.w3.org/1999/xhtml", .attr b!"xml:lang" b!"en", .openEnd false,
   .open b!"body", .attr b!"onload" b!"document.getElementById('samlpost').submit()", .openEnd false,
   .open b!"noscript", .openEnd false] ++
  (if scripting then [] else
    [.open b!"p", .openEnd false, .open b!"strong", .openEnd false, .close b!"strong", .close b!"p"]) ++
  [.close b!"noscript",
   .open b!"form", .attr b!"action" u, .attr b!"method" b!"post", .attr b!"id" b!"samlpost", .openEnd false,
   .open b!"div", .openEnd false,
   .open b!"input", .attr b!"type" b!"hidden", .attr b!"name" b!"RelayState", .attr b!"value" r, .openEnd true,
   .open b!"input", .attr b!"type" b!"hidden", .attr b!"name" b!"SAMLResponse", .attr b!"value" m, .openEnd true,
   .close b!"div",
   .open b!"noscript", .openEnd false] ++
  (if scripting then [] else
    [.open b!"div", .openEnd false, .open b!"input", .attr b!"type" b!"submit", .attr b!"value" b!"Continue", .openEnd true,
     .close b!"div"]) ++
  [.close b!"noscript", .close b!"form", .close b!"body", .close b!"html"]

/-- the logout template has the same literal text as the login template -/
theorem logout_same_literals : Gen.Facts.logoutTemplateLits = Gen.Facts.postTemplateLits := by decide +kernel

/-- exactly three holes each, nothing but field substitutions (no pipelines, no `safe` types, no conditionals) -/
theorem holes_current :
    Gen.Facts.postTemplateHoles = [".AssertionConsumerServiceURL", ".RelayState", ".SAMLResponse"] ∧
    Gen.Facts.logoutTemplateHoles = [".LogoutURL", ".RelayState", ".SAMLResponse"] := by decide

/-- the templates are parsed by html/template (not text/template), and every substituted field is a plain `string`
    (none of the `template.HTML` / `template.URL` / `template.HTMLAttr` types that switch escaping off) -/
theorem escaping_on : Gen.Facts.templatePkg = "html/template" ∧
    Gen.Facts.templateDataTypes = [("authResponseForm.RelayState", "string"), ("authResponseForm.SAMLResponse", "string"),
      ("authResponseForm.AssertionConsumerServiceURL", "string"), ("LogoutResponseForm.RelayState", "string"),
      ("LogoutResponseForm.SAMLResponse", "string"), ("LogoutResponseForm.LogoutURL", "string")] := by decide

/-- the functions that fill and execute the templates are the ones the model was written against -/
theorem C17_source_current : FactsUtil.sameHashes ["provider.LogoutResponse.sendBackLogoutResponse", "provider.NewIdentityProvider"] = true := by decide +kernel

def lit0 := Gen.Facts.postTemplateLit0
def lit1 := Gen.Facts.postTemplateLit1
def lit2 := Gen.Facts.postTemplateLit2
def lit3 := Gen.Facts.postTemplateLit3

theorem lits_eq : Gen.Facts.postTemplateLits = [lit0, lit1, lit2, lit3] := rfl

/-! ### the page of a template with three holes, each a double-quoted attribute value -/

/-- inside the double-quoted value of attribute `a` of start tag `n`, nothing read yet -/
def sDq (n a : Lib.Bytes) : St := { mode := .attrValDq, isEnd := false, name := n, aname := a, val := [] }
def sAfter (n : Lib.Bytes) : St := { mode := .afterAttrValQ, isEnd := false, name := n, aname := [], val := [] }

/-- newline normalisation leaves literals without CR and the escaped URL alone; in the two values it acts as on the
    values (a segment that starts with `"` also resets the normaliser, whatever the value before it ended in) -/
theorem normNL_page (l0 t1 t2 t3 : Lib.Bytes) (hcr : ∀ l ∈ [l0, t1, t2, t3], ∀ y ∈ l, y ≠ 0x0D) (url relay msg : Lib.Bytes) :
    normNL (page [l0, 0x22 :: t1, 0x22 :: t2, 0x22 :: t3] url relay msg) =
      l0 ++ urlAttr url ++ 0x22 :: t1 ++ attrEscape (normNL relay) ++ 0x22 :: t2 ++ attrEscape (normNL msg) ++ 0x22 :: t3 := by
  have h0 : nlRun false l0 = (false, l0) := nlRun_noCR _ (hcr l0 (by simp))
  have hq : ∀ (t : Lib.Bytes) (p : Bool), (∀ y ∈ t, y ≠ 0x0D) → nlRun p (0x22 :: t) = (false, 0x22 :: t) := by
    intro t p hn
    have hs : nlStep p 0x22 = (false, [0x22]) := by cases p <;> decide
    rw [nlRun_cons, hs, nlRun_noCR t hn]; simp
  have h1 := fun p => hq t1 p (hcr t1 (by simp))
  have h2 := fun p => hq t2 p (hcr t2 (by simp))
  have h3 := fun p => hq t3 p (hcr t3 (by simp))
  have hu : nlRun false (urlAttr url) = (false, urlAttr url) := by
    unfold urlAttr
    rw [nlRun_escape, nlRun_noCR _ (fun y hy => (urlOut_safe y (urlNormalize_out _ y hy)).2.2.2.2.2.2.1)]
  unfold normNL page
  simp only [nlRun_append, h0, hu, h1, h2, h3, nlRun_escape]

/-- **the page, for any such template**: if the literal before each hole leaves the tokenizer inside a double-quoted
    attribute value, the events of the page are those of the literals with exactly one attribute event per hole between
    them, whose value is the filtered, normalised URL resp. the substituted value up to what HTML cannot carry -/
theorem page_events {sc : Bool} {l0 t1 t2 t3 n0 a0 n1 a1 n2 a2 : Lib.Bytes} {e0 e1 e2 e3 : List Event} {st3 : St}
    (hcr : ∀ l ∈ [l0, t1, t2, t3], ∀ y ∈ l, y ≠ 0x0D) (ha0 : a0 ≠ []) (ha1 : a1 ≠ []) (ha2 : a2 ≠ [])
    (h0 : run sc {} l0 = (sDq n0 a0, e0)) (h1 : run sc (sAfter n0) t1 = (sDq n1 a1, e1))
    (h2 : run sc (sAfter n1) t2 = (sDq n2 a2, e2)) (h3 : run sc (sAfter n2) t3 = (st3, e3)) (url relay msg : Lib.Bytes) :
    tokenize sc (page [l0, 0x22 :: t1, 0x22 :: t2, 0x22 :: t3] url relay msg) =
      e0 ++ .attr a0 (urlNormalize (urlFilter url)) :: e1 ++ .attr a1 (nulToFFFD (normNL relay)) :: e2 ++
        .attr a2 (nulToFFFD (normNL msg)) :: e3 := by
  unfold tokenize
  rw [normNL_page l0 t1 t2 t3 hcr]
  have hrest : l0 ++ urlAttr url ++ 0x22 :: t1 ++ attrEscape (normNL relay) ++ 0x22 :: t2 ++ attrEscape (normNL msg) ++ 0x22 :: t3 =
      l0 ++ (attrEscape (urlNormalize (urlFilter url)) ++ 0x22 :: (t1 ++ (attrEscape (normNL relay) ++ 0x22 :: (t2 ++
        (attrEscape (normNL msg) ++ 0x22 :: t3))))) := by
    simp [urlAttr, List.append_assoc]
  unfold sDq sAfter at *
  rw [hrest, run_append, h0, run_hole ha0, run_append, h1, run_hole ha1, run_append, h2,
    run_hole ha2, h3]
  simp [nulToFFFD_urlNormalize]

/-! ### the literal segments of the template, run through the tokenizer (closed computations, evaluated by the kernel) -/

/-- each hole is opened by a `"` that begins the segment after it -/
theorem lits_quote : Gen.Facts.postTemplateLits = [lit0, 0x22 :: lit1.tail, 0x22 :: lit2.tail, 0x22 :: lit3.tail] := by
  decide +kernel

theorem lits_noCR : ∀ l ∈ [lit0, lit1.tail, lit2.tail, lit3.tail], ∀ y ∈ l, y ≠ 0x0D := by decide +kernel

theorem seg0 (sc : Bool) : run sc {} lit0 = (sDq b!"form" b!"action", (pageEvents sc [] [] []).take (if sc then 11 else 17)) := by
  cases sc <;> decide +kernel

theorem seg1 (sc : Bool) : run sc (sAfter b!"form") lit1.tail =
    (sDq b!"input" b!"value", ((pageEvents sc [] [] []).drop (if sc then 12 else 18)).take 8) := by
  cases sc <;> decide +kernel

theorem seg2 (sc : Bool) : run sc (sAfter b!"input") lit2.tail =
    (sDq b!"input" b!"value", ((pageEvents sc [] [] []).drop (if sc then 21 else 27)).take 4) := by
  cases sc <;> decide +kernel

theorem seg3 (sc : Bool) : run sc (sAfter b!"input") lit3.tail =
    ({}, (pageEvents sc [] [] []).drop (if sc then 26 else 32)) := by
  cases sc <;> decide +kernel

/-- **C17 (page)**: for every consumer URL, RelayState and message — any bytes — an HTML tokenizer sees the fixed event
    stream of the template; the three substituted values appear as exactly three attribute values: the filtered,
    normalised URL and the two values themselves, up to what HTML cannot carry (NUL ↦ U+FFFD, CR / CR LF ↦ LF). -/
theorem C17_page (sc : Bool) (url relay msg : Lib.Bytes) :
    tokenize sc (page Gen.Facts.postTemplateLits url relay msg) =
      pageEvents sc (urlNormalize (urlFilter url)) (nulToFFFD (normNL relay)) (nulToFFFD (normNL msg)) := by
  rw [lits_quote, page_events lits_noCR (by decide) (by decide) (by decide)
    (seg0 sc) (seg1 sc) (seg2 sc) (seg3 sc)]
  cases sc <;> rfl

theorem C17_page_logout (sc : Bool) (url relay msg : Lib.Bytes) :
    tokenize sc (page Gen.Facts.logoutTemplateLits url relay msg) =
      pageEvents sc (urlNormalize (urlFilter url)) (nulToFFFD (normNL relay)) (nulToFFFD (normNL msg)) := by
  rw [logout_same_literals]; exact C17_page sc url relay msg

/-- **exactly one form**, whose action is the filtered and normalised URL, whose method is post, and whose hidden
    fields are exactly RelayState and SAMLResponse with the substituted values -/
theorem forms_of_pageEvents (sc : Bool) (u r m : Lib.Bytes) :
    formsOf (pageEvents sc u r m) =
      [{ action := some u, method := some b!"post", hidden := [(b!"RelayState", r), (b!"SAMLResponse", m)],
         others := if sc then 0 else 1 }] := by
  cases sc <;>
    simp [formsOf, pageEvents, formStep, bForm, bInput, bAction, bMethod, bType, bName, bValue, bHidden, toLowerByte]

theorem C17_one_form (sc : Bool) (url relay msg : Lib.Bytes) :
    formsOf (tokenize sc (page Gen.Facts.postTemplateLits url relay msg)) =
      [{ action := some (urlNormalize (urlFilter url)), method := some b!"post",
         hidden := [(b!"RelayState", nulToFFFD (normNL relay)), (b!"SAMLResponse", nulToFFFD (normNL msg))],
         others := if sc then 0 else 1 }] := by
  rw [C17_page, forms_of_pageEvents]

/-- **no markup can be added**: the start tags and the attribute names of the page do not depend on the values -/
theorem C17_structure_fixed (sc : Bool) (url relay msg url' relay' msg' : Lib.Bytes) :
    startTags (tokenize sc (page Gen.Facts.postTemplateLits url relay msg)) =
      startTags (tokenize sc (page Gen.Facts.postTemplateLits url' relay' msg')) ∧
    attrNames (tokenize sc (page Gen.Facts.postTemplateLits url relay msg)) =
      attrNames (tokenize sc (page Gen.Facts.postTemplateLits url' relay' msg')) := by
  rw [C17_page, C17_page]
  cases sc <;> exact ⟨rfl, rfl⟩

/-- in particular there is no script element and the only event-handler attribute is the template's own `onload` -/
theorem C17_no_script (sc : Bool) (url relay msg : Lib.Bytes) :
    b!"script" ∉ startTags (tokenize sc (page Gen.Facts.postTemplateLits url relay msg)) ∧
    (attrNames (tokenize sc (page Gen.Facts.postTemplateLits url relay msg))).filter (fun n => n.take 2 = b!"on") = [b!"onload"] := by
  rw [C17_page]
  have h1 : startTags (pageEvents sc (urlNormalize (urlFilter url)) (nulToFFFD (normNL relay)) (nulToFFFD (normNL msg))) =
      startTags (pageEvents sc [] [] []) := by
    cases sc <;> rfl
  have h2 : attrNames (pageEvents sc (urlNormalize (urlFilter url)) (nulToFFFD (normNL relay)) (nulToFFFD (normNL msg))) =
      attrNames (pageEvents sc [] [] []) := by
    cases sc <;> rfl
  rw [h1, h2]
  cases sc <;> decide +kernel

/-- **no byte of a value can end its attribute or open a tag** (statement about the bytes written, tokenizer-free) -/
theorem C17_no_delimiter (url relay msg : Lib.Bytes) :
    (∀ y ∈ urlAttr url, y ≠ 0x22 ∧ y ≠ 0x3C ∧ y ≠ 0x3E ∧ y ≠ 0x27 ∧ y ≠ 0) ∧
    (∀ y ∈ attrEscape relay, y ≠ 0x22 ∧ y ≠ 0x3C ∧ y ≠ 0x3E ∧ y ≠ 0x27 ∧ y ≠ 0) ∧
    (∀ y ∈ attrEscape msg, y ≠ 0x22 ∧ y ≠ 0x3C ∧ y ≠ 0x3E ∧ y ≠ 0x27 ∧ y ≠ 0) :=
  ⟨attrEscape_safe _, attrEscape_safe relay, attrEscape_safe msg⟩

/-- **a javascript: / data: consumer URL is never the form action**: a URL with a protocol other than http, https,
    mailto is replaced by the inert `#ZgotmplZ` -/
theorem C17_action_scheme (sc : Bool) (url relay msg p : Lib.Bytes) (hs : schemeOf url = some p)
    (hbad : foldProto p ≠ b!"http" ∧ foldProto p ≠ b!"https" ∧ foldProto p ≠ b!"mailto") :
    (formsOf (tokenize sc (page Gen.Facts.postTemplateLits url relay msg))).map (·.action) = [some b!"#ZgotmplZ"] := by
  rw [C17_one_form, urlFilter_blocks url p hs hbad]
  have : urlNormalize failsafe = b!"#ZgotmplZ" := by decide +kernel
  simp [this]

/-- **whatever the consumer URL, the action a browser sees has a safe protocol**: if a WHATWG URL parser finds a scheme in
    the emitted form action, it is http, https or mailto.  (Stronger than `C17_action_scheme`: it speaks about the URL a
    browser parses, after percent-normalisation, not about the Go-side filter.) -/
theorem C17_action_browser_scheme (sc : Bool) (url relay msg a p : Lib.Bytes)
    (ha : (formsOf (tokenize sc (page Gen.Facts.postTemplateLits url relay msg))).map (·.action) = [some a])
    (hp : browserScheme a = some p) :
    p.map toLowerByte = b!"http" ∨ p.map toLowerByte = b!"https" ∨ p.map toLowerByte = b!"mailto" := by
  rw [C17_one_form] at ha
  cases ha
  exact action_browser_scheme url p hp

example : browserScheme b!"JavaScript:alert(1)" = some b!"JavaScript" := by decide +kernel
example : browserScheme b!"http%c5%bf://sp.example.com/acs" = none := by decide +kernel

/-- what the action is otherwise: the registered URL, percent-normalised -/
theorem C17_action_ok (sc : Bool) (url relay msg : Lib.Bytes)
    (hs : schemeOf url = none ∨ ∃ p, schemeOf url = some p ∧ (foldProto p = b!"http" ∨ foldProto p = b!"https" ∨ foldProto p = b!"mailto")) :
    (formsOf (tokenize sc (page Gen.Facts.postTemplateLits url relay msg))).map (·.action) = [some (urlNormalize url)] := by
  rw [C17_one_form]
  have : urlFilter url = url := by
    unfold urlFilter
    rcases hs with h | ⟨p, h, hp⟩
    · simp [h]
    · simp only [h]; rw [if_pos hp]
  simp [this]

/-- **the hidden fields hold exactly the values** — for values without NUL and CR (`…_partial`: see the witness below) -/
theorem C17_values_exact_partial (sc : Bool) (url relay msg : Lib.Bytes)
    (hr : ∀ y ∈ relay, y ≠ 0 ∧ y ≠ 0x0D) (hm : ∀ y ∈ msg, y ≠ 0 ∧ y ≠ 0x0D) :
    (formsOf (tokenize sc (page Gen.Facts.postTemplateLits url relay msg))).map (·.hidden) =
      [[(b!"RelayState", relay), (b!"SAMLResponse", msg)]] := by
  have nz := nulToFFFD_of_nz
  rw [C17_one_form, normNL_noCR relay (fun y hy => (hr y hy).2), normNL_noCR msg (fun y hy => (hm y hy).2),
    nz relay (fun y hy => (hr y hy).1), nz msg (fun y hy => (hm y hy).1)]
  rfl

/-- the hypothesis of `C17_values_exact_partial` is needed: a CR in RelayState arrives as LF.  (The message the IdP
    substitutes is base64 text, without NUL or CR, so it always arrives exactly.) -/
theorem C17_witness_cr : ∀ sc, (formsOf (tokenize sc (page Gen.Facts.postTemplateLits b!"https://sp.example/acs" [0x61, 0x0D, 0x62] b!"QUJD"))).map (·.hidden) =
      [[(b!"RelayState", [0x61, 0x0A, 0x62]), (b!"SAMLResponse", b!"QUJD")]] := by
  intro sc
  rw [C17_one_form]
  cases sc <;> decide +kernel

example : schemeOf b!"javascript:alert(1)" = some b!"javascript" := by decide +kernel
example : (formsOf (tokenize true (page Gen.Facts.postTemplateLits b!"JaVaScript:alert(1)" b!"\"><script>alert(1)</script>" b!"x"))).map (·.action) = [some b!"#ZgotmplZ"] := by
  rw [C17_one_form]; decide +kernel
example : (formsOf (tokenize false (page Gen.Facts.postTemplateLits b!"https://sp.example/acs?a=1&b=2" b!"\"><script>alert(1)</script>" b!"x"))).map (·.hidden) =
    [[(b!"RelayState", b!"\"><script>alert(1)</script>"), (b!"SAMLResponse", b!"x")]] := by
  rw [C17_one_form]; decide +kernel

end C17
