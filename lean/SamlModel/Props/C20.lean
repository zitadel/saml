import SamlModel.Props.CheckerGen
import SamlModel.Exec.C20
/-!
  C20 — Validation chains stop at the first failure and report it exactly once.
  Theorems about the checker model (`Model.Checker`, hand translation of checker.go; `Props.CheckerGen` proves the
  functions regenerated from checker.go on every run equal to it, and the `chk` correspondence compares it with the
  real checker exhaustively) for **all** programs: any length, any parameters.
-/
namespace C20
open Checker

/-- the closure that `addDesc` appends for step `i` described by `d` -/
def stepFn (i : Nat) (d : StepDesc) : M Trace Bool :=
  ((addDesc { steps := [] } i d).steps).headD (fun t => (false, t))

theorem addDesc_steps (c : Checker Trace) (i : Nat) (d : StepDesc) :
    (addDesc c i d).steps = c.steps ++ [stepFn i d] := by
  cases d <;> rfl

theorem buildFrom_steps (c : Checker Trace) (k : Nat) (prog : List StepDesc) :
    (buildFrom c k prog).steps = c.steps ++ (prog.zipIdx k).map (fun p => stepFn p.2 p.1) := by
  induction prog generalizing c k with
  | nil => simp [buildFrom]
  | cons d ds ih =>
    simp only [buildFrom, ih, addDesc_steps, List.zipIdx_cons, List.map_cons, List.append_assoc, List.singleton_append]

/-- **append-only**: adding a step leaves the earlier steps untouched and puts the new one last -/
theorem C20_append_only (c : Checker Trace) (k : Nat) (prog : List StepDesc) (d : StepDesc) :
    (buildFrom c k (prog ++ [d])).steps = (buildFrom c k prog).steps ++ [stepFn (k + prog.length) d] := by
  rw [buildFrom_steps, buildFrom_steps, List.zipIdx_append]
  simp

/-- behaviour of one step: it fails exactly on the documented condition, performs exactly the
    documented reads, and runs its failure callback once iff it fails -/
theorem step_run (i : Nat) (d : StepDesc) (t : Trace) :
    stepFn i d t = (fails d, t ++ reads i d ++ (if fails d then [⟨i, .error⟩] else [])) := by
  cases d with
  | notEmpty v =>
    by_cases h : v = "" <;> simp [stepFn, addDesc, withValueNotEmptyCheck, addStep, logged, fails, reads, h]
  | valuesNotEmpty vs =>
    have hany : anyEmpty vs = vs.any (· == "") := by
      induction vs with
      | nil => rfl
      | cons x xs ih => by_cases hx : x = "" <;> simp [anyEmpty, hx, ih]
    by_cases h : vs.any (· == "") = true <;>
      simp [stepFn, addDesc, withValuesNotEmptyCheck, addStep, logged, fails, reads, hany, h]
  | length v mn mx =>
    by_cases h1 : mn > 0 <;> by_cases h2 : Lib.goLen v < mn <;> by_cases h3 : mx > 0 <;> by_cases h4 : Lib.goLen v > mx <;>
      simp [stepFn, addDesc, withValueLengthCheck, addStep, logged, fails, reads, h1, h2, h3, h4]
  | equals v e =>
    by_cases h : v = e <;> simp [stepFn, addDesc, withValueEqualsCheck, addStep, logged, fails, reads, h]
  | condNotEmpty c v =>
    cases c <;> by_cases h : v = "" <;>
      simp [stepFn, addDesc, withConditionalValueNotEmpty, addStep, logged, fails, reads, h]
  | condLogic c e =>
    cases c <;> cases e <;> simp [stepFn, addDesc, withConditionalLogicStep, addStep, logged, fails, reads]
  | logic e =>
    cases e <;> simp [stepFn, addDesc, withLogicStep, addStep, logged, fails, reads]
  | valueStep => simp [stepFn, addDesc, withValueStep, addStep, logged, fails, reads]

theorem runSteps_ref (k : Nat) (prog : List StepDesc) (t : Trace) :
    runSteps ((prog.zipIdx k).map (fun p => stepFn p.2 p.1)) t = ((refFrom k prog).1, t ++ (refFrom k prog).2) := by
  induction prog generalizing k t with
  | nil => simp [runSteps, refFrom]
  | cons d ds ih =>
    simp only [List.zipIdx_cons, List.map_cons, runSteps, step_run, refFrom]
    cases h : fails d
    · simp [ih]
    · simp

/-- **C20 backbone.** For every program, started from any trace, the chain behaves exactly like the
    reference interpreter: same verdict, same invocations in the same order. -/
theorem C20_run_eq_ref (prog : List StepDesc) (t : Trace) :
    checkFailed (build prog) t = ((refRun prog).1, t ++ (refRun prog).2) := by
  unfold checkFailed build refRun
  rw [buildFrom_steps]
  simpa using runSteps_ref 0 prog t

theorem C20_holdsOn (prog : List StepDesc) : holdsOn prog = true := by
  simp [holdsOn, C20_run_eq_ref]

/-- re-evaluating a chain repeats the same behaviour -/
theorem C20_reevaluation (prog : List StepDesc) (t : Trace) :
    let r1 := checkFailed (build prog) t
    let r2 := checkFailed (build prog) r1.2
    r2.1 = r1.1 ∧ r2.2 = r1.2 ++ (refRun prog).2 ∧ r1.2 = t ++ (refRun prog).2 := by
  simp [C20_run_eq_ref]

/-! ### consequences, stated on the reference run (equal to the chain's run by `C20_run_eq_ref`) -/

private theorem reads_step (i : Nat) (d : StepDesc) : ∀ e ∈ reads i d, e.step = i ∧ e.role ≠ .error := by
  cases d with
  | length v mn mx =>
    by_cases h1 : mn > 0 <;> by_cases h2 : Lib.goLen v < mn <;> by_cases h3 : mx > 0 <;> simp [reads, h1, h2, h3]
  | equals v e => by_cases h : v = e <;> simp [reads, h]
  | condNotEmpty c v => cases c <;> simp [reads]
  | condLogic c e => cases c <;> simp [reads]
  | _ => simp [reads]

/-- the reads of the steps of `l`, numbered from `k` -/
abbrev readsFrom (k : Nat) (l : List StepDesc) : Trace := (l.zipIdx k).flatMap (fun p => reads p.2 p.1)

/-- **the reference run in closed form**: the reads up to and including the first failing step and its one callback, or
    all reads -/
theorem refFrom_eq (k : Nat) (prog : List StepDesc) :
    refFrom k prog = match prog.findIdx? fails with
      | none => (false, readsFrom k prog)
      | some j => (true, readsFrom k (prog.take (j + 1)) ++ [⟨k + j, .error⟩]) := by
  induction prog generalizing k with
  | nil => rfl
  | cons d ds ih =>
    rw [List.findIdx?_cons]
    cases h : fails d
    · simp only [refFrom, h, ih (k + 1), Bool.false_eq_true, if_false]
      cases ds.findIdx? fails <;> simp [readsFrom, List.zipIdx_cons, Nat.add_assoc, Nat.add_comm 1]
    · simp [refFrom, h, readsFrom]

theorem refFrom_failed_iff (k : Nat) (prog : List StepDesc) : (refFrom k prog).1 = prog.any fails := by
  rw [refFrom_eq, ← List.findIdx?_isSome]
  cases prog.findIdx? fails <;> rfl

theorem mem_readsFrom {k : Nat} {l : List StepDesc} {e : Ev} (he : e ∈ readsFrom k l) :
    k ≤ e.step ∧ e.step < k + l.length ∧ e.role ≠ .error := by
  obtain ⟨⟨d, i⟩, hp, hpe⟩ := List.mem_flatMap.mp he
  obtain ⟨h1, h2, -⟩ := List.mem_zipIdx hp
  obtain ⟨hs, hr⟩ := reads_step i d e hpe
  exact ⟨hs ▸ h1, hs ▸ h2, hr⟩

/-- `List.findIdx?_eq_some_iff_getElem` with `getElem?`, the form the theorems below take their hypotheses in -/
theorem first_failing {α : Type} {p : α → Bool} {l : List α} {j : Nat} :
    l.findIdx? p = some j ↔ ∃ d, l[j]? = some d ∧ p d = true ∧ ∀ i, i < j → ∀ d', l[i]? = some d' → p d' = false := by
  rw [List.findIdx?_eq_some_iff_getElem]
  constructor
  · rintro ⟨h, hf, hprev⟩
    refine ⟨l[j], by simp [h], hf, fun i hi d' hd' => ?_⟩
    have hi' : i < l.length := by omega
    have := hprev i hi
    simp [List.getElem?_eq_getElem hi'] at hd'
    subst hd'; simpa using this
  · rintro ⟨d, hd, hf, hprev⟩
    obtain ⟨h, rfl⟩ := List.getElem?_eq_some_iff.mp hd
    exact ⟨h, hf, fun i hi => by simpa using hprev i hi _ (List.getElem?_eq_getElem (by omega))⟩

theorem refFrom_first_failure (base : Nat) (prog : List StepDesc) (k : Nat) (d : StepDesc)
    (hk : prog[k]? = some d) (hf : fails d = true)
    (hprev : ∀ j, j < k → ∀ d', prog[j]? = some d' → fails d' = false) :
    (refFrom base prog).1 = true ∧
    (refFrom base prog).2 = ((prog.take (k + 1)).zipIdx base).flatMap (fun p => reads p.2 p.1) ++ [⟨base + k, .error⟩] := by
  rw [refFrom_eq, first_failing.mpr ⟨d, hk, hf, hprev⟩]
  exact ⟨rfl, rfl⟩

theorem refFrom_no_failure (k : Nat) (prog : List StepDesc) (h : ∀ d ∈ prog, fails d = false) :
    refFrom k prog = (false, readsFrom k prog) := by
  rw [refFrom_eq, List.findIdx?_eq_none_iff.mpr h]

/-- every event of the run belongs to a step of the program; a callback (`error` event) occurs only
    for a step that fails and whose predecessors all pass -/
theorem refFrom_shape (k : Nat) (prog : List StepDesc) :
    ∀ e ∈ (refFrom k prog).2, k ≤ e.step ∧ e.step < k + prog.length ∧
      (e.role = .error → ∃ d, prog[e.step - k]? = some d ∧ fails d = true ∧
          ∀ j, j < e.step - k → ∀ d', prog[j]? = some d' → fails d' = false) := by
  intro e he
  rw [refFrom_eq] at he
  split at he
  next =>
    obtain ⟨h1, h2, h3⟩ := mem_readsFrom he
    exact ⟨h1, h2, fun hr => absurd hr h3⟩
  next j hj =>
    obtain ⟨d, hd, hf, hprev⟩ := first_failing.mp hj
    rcases List.mem_append.mp he with he | he
    · obtain ⟨h1, h2, h3⟩ := mem_readsFrom he
      exact ⟨h1, by have := List.length_take_le' (j + 1) prog; omega, fun hr => absurd hr h3⟩
    · obtain rfl := List.mem_singleton.mp he
      exact ⟨Nat.le_add_right _ _, Nat.add_lt_add_left (List.getElem?_eq_some_iff.mp hd).1 k,
        fun _ => ⟨d, by simpa using hd, hf, by simpa using hprev⟩⟩

theorem readsFrom_sorted (k : Nat) (l : List StepDesc) : ((readsFrom k l).map (·.step)).Pairwise (· ≤ ·) := by
  rw [List.pairwise_map]
  induction l generalizing k with
  | nil => simp [readsFrom]
  | cons d ds ih =>
    have hr : ∀ e ∈ reads k d, e.step = k := fun e he => (reads_step k d e he).1
    simp only [readsFrom, List.zipIdx_cons, List.flatMap_cons]
    rw [List.pairwise_append]
    refine ⟨List.pairwise_of_forall_mem_list fun a ha b hb => ?_, ih (k + 1), fun a ha b hb => ?_⟩
    · rw [hr a ha, hr b hb]
      exact Nat.le_refl _
    · have := (mem_readsFrom hb).1
      rw [hr a ha]
      omega

theorem refFrom_sorted (k : Nat) (prog : List StepDesc) :
    ((refFrom k prog).2.map (·.step)).Pairwise (· ≤ ·) := by
  rw [refFrom_eq]
  cases hj : prog.findIdx? fails with
  | none => exact readsFrom_sorted k prog
  | some j =>
    simp only [List.map_append, List.map_cons, List.map_nil]
    rw [List.pairwise_append]
    refine ⟨readsFrom_sorted k _, by simp, ?_⟩
    intro a ha b hb
    obtain ⟨e, he, rfl⟩ := List.mem_map.mp ha
    have := (mem_readsFrom he).2.1
    simp at hb this; omega

/-- the chain reports failure iff some step failed -/
theorem C20_failed_iff (prog : List StepDesc) (t : Trace) :
    (checkFailed (build prog) t).1 = prog.any fails := by
  rw [C20_run_eq_ref]; exact refFrom_failed_iff 0 prog

/-- The chain, run from the empty trace: first failing step `k` ⇒ verdict `true`; the invocations are
    the reads of steps `0..k` then the callback of step `k` — exactly once — and neither the logic nor
    the callback of any later step runs (no event with a step number above `k`). -/
theorem C20_first_failure (prog : List StepDesc) (k : Nat) (d : StepDesc)
    (hk : prog[k]? = some d) (hf : fails d = true)
    (hprev : ∀ j, j < k → ∀ d', prog[j]? = some d' → fails d' = false) :
    let r := checkFailed (build prog) []
    r.1 = true ∧
    r.2 = ((prog.take (k + 1)).zipIdx 0).flatMap (fun p => reads p.2 p.1) ++ [⟨k, .error⟩] ∧
    r.2.count ⟨k, .error⟩ = 1 ∧
    ∀ e ∈ r.2, e.step ≤ k ∧ (e.role = .error → e.step = k) := by
  have h := refFrom_first_failure 0 prog k d hk hf hprev
  simp only [C20_run_eq_ref, refRun, h.1, h.2, Nat.zero_add, List.nil_append]
  refine ⟨trivial, trivial, ?_, ?_⟩
  · rw [List.count_append, List.count_eq_zero.mpr fun hmem => (mem_readsFrom hmem).2.2 rfl]
    simp
  · intro e he
    rcases List.mem_append.mp he with he | he
    · obtain ⟨-, h2, h3⟩ := mem_readsFrom he
      have hl : (List.take (k + 1) prog).length ≤ k + 1 := by simp; omega
      exact ⟨by omega, fun hr => absurd hr h3⟩
    · obtain rfl := List.mem_singleton.mp he; exact ⟨Nat.le_refl _, fun _ => rfl⟩

/-- no step fails: verdict `false`, every step's reads in order, no callback at all -/
theorem C20_no_failure (prog : List StepDesc) (h : ∀ d ∈ prog, fails d = false) :
    let r := checkFailed (build prog) []
    r.1 = false ∧ r.2 = (prog.zipIdx 0).flatMap (fun p => reads p.2 p.1) ∧ ∀ e ∈ r.2, e.role ≠ .error := by
  simp only [C20_run_eq_ref, refRun, refFrom_no_failure 0 prog h, List.nil_append]
  exact ⟨trivial, trivial, fun e he => (mem_readsFrom he).2.2⟩

/-- order: step numbers along the trace never decrease -/
theorem C20_order (prog : List StepDesc) :
    (((checkFailed (build prog) []).2).map (·.step)).Pairwise (· ≤ ·) := by
  rw [C20_run_eq_ref]; simpa [refRun] using refFrom_sorted 0 prog

/-! ### each step kind fails exactly on its documented condition (`step_run` shows the model step
    returns `fails d`; these restate `fails` kind by kind) -/
theorem C20_cond_notEmpty (v : String) : fails (.notEmpty v) = true ↔ v = "" := by simp [fails]
theorem C20_cond_valuesNotEmpty (vs : List String) : fails (.valuesNotEmpty vs) = true ↔ ∃ v ∈ vs, v = "" := by simp [fails]
theorem C20_cond_length (v : String) (mn mx : Int) :
    fails (.length v mn mx) = true ↔ (mn > 0 ∧ Lib.goLen v < mn) ∨ (mx > 0 ∧ Lib.goLen v > mx) := by simp [fails]
theorem C20_cond_equals (v e : String) : fails (.equals v e) = true ↔ v ≠ e := by simp [fails]
theorem C20_cond_condNotEmpty (c : Bool) (v : String) : fails (.condNotEmpty c v) = true ↔ c = true ∧ v = "" := by simp [fails]
theorem C20_cond_condLogic (c e : Bool) : fails (.condLogic c e) = true ↔ c = true ∧ e = true := by simp [fails]
theorem C20_cond_logic (e : Bool) : fails (.logic e) = true ↔ e = true := by simp [fails]
theorem C20_cond_valueStep : fails .valueStep = false := rfl

/-- tie: checker.go is translated on every run (`Generated/Checker.lean`; this is its flag), and `Props.CheckerGen` proves
    every generated function equal to the function of `Model.Checker` these theorems are stated over (`checkFailed_eq`,
    `withValueNotEmptyCheck_eq` and its seven siblings) -/
theorem C20_source_current : Gen.Chk.translated = true := CheckerGen.translated

/-- non-vacuity: a three-step chain whose second step fails -/
example : checkFailed (build [.notEmpty "x", .condLogic true true, .logic true]) [] =
    (true, [⟨0, .value⟩, ⟨1, .cond⟩, ⟨1, .logic⟩, ⟨1, .error⟩]) := by decide

end C20
