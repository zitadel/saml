import SamlModel.Lemmas.Builders
import SamlModel.Lemmas.GoSem
import SamlModel.Model.Callback
import SamlModel.Model.FactsUtil
import SamlModel.Props.Current
/-!
  C03 — Assertion content is bound to the originating request, audience and user.
-/
namespace C03
open Go Gen Callback Consts

def basicFormat : String := "urn:oasis:names:tc:SAML:2.0:attrname-format:basic"

/-- a standard attribute is emitted iff its value is non-empty, with exactly that value -/
def stdAttr (name v : String) : List (Option saml_AttributeType) :=
  if v = "" then [] else [some { Name := name, NameFormat := basicFormat, AttributeValue := [v] }]

def customAttr (p : String × provider_CustomAttribute) : Option saml_AttributeType :=
  some { Name := p.1, FriendlyName := p.2.FriendlyName, NameFormat := p.2.NameFormat, AttributeValue := p.2.AttributeValue }

/-- **the attribute statement, specified**: the six standard attributes in fixed order (each iff set), then the
    custom attributes in the order the user record yields them, value lists untouched -/
def specAttrs (a : provider_Attributes) : List (Option saml_AttributeType) :=
  stdAttr "Email" a.email ++ stdAttr "SurName" a.surname ++ stdAttr "FirstName" a.givenName ++
  stdAttr "FullName" a.fullName ++ stdAttr "UserName" a.username ++ stdAttr "UserID" a.userID ++
  a.customAttributes.map customAttr

theorem mem_stdAttr (x : Option saml_AttributeType) (name v : String) :
    x ∈ stdAttr name v ↔ v ≠ "" ∧ x = some { Name := name, NameFormat := basicFormat, AttributeValue := [v] } := by
  unfold stdAttr; split <;> simp [*]

theorem specAttrs_some (a : provider_Attributes) : ∀ x ∈ specAttrs a, x.isSome := by
  intro x hx
  simp only [specAttrs, List.mem_append, mem_stdAttr, List.mem_map] at hx
  rcases hx with (((((⟨_, rfl⟩ | ⟨_, rfl⟩) | ⟨_, rfl⟩) | ⟨_, rfl⟩) | ⟨_, rfl⟩) | ⟨_, rfl⟩) | ⟨p, _, rfl⟩ <;> rfl

/-- one `if v != "" { attrs = append(attrs, …) }` block of `GetSAML` appends `stdAttr name v` -/
private theorem stdStep {ρ : Type} (a : Option provider_Attributes) (l : List (Option saml_AttributeType)) (name v : String) :
    (bif v != "" then
        (Ctl.next { a := a, attrs := l ++ [some { Name := name, FriendlyName := "", NameFormat := "urn:oasis:names:tc:SAML:2.0:attrname-format:basic", AttributeValue := [v] }] } : Ctl Attributes_GetSAML.Frame ρ)
      else .next { a := a, attrs := l }) = .next { a := a, attrs := l ++ stdAttr name v } := by
  by_cases h : v = "" <;> simp [stdAttr, basicFormat, h, Bool.cond_eq_ite]

private theorem customLoop {ρ : Type} (xs : List (String × provider_CustomAttribute)) (s : Attributes_GetSAML.Frame) :
    goFor xs s (fun (p : String × provider_CustomAttribute) s =>
        (Ctl.next { s with attrs := s.attrs ++ [customAttr p] } : Ctl _ ρ)) =
      .next { s with attrs := s.attrs ++ xs.map customAttr } :=
  goFor_acc (fun _ _ => rfl) (fun xs s => { s with attrs := s.attrs ++ xs.map customAttr }) (by simp) (by simp) xs s

theorem getSAML_eq (o : Ora) (a : provider_Attributes) : Attributes_GetSAML o (some a) = .ok (specAttrs a) := by
  have hdflt : (default : saml_AttributeType).FriendlyName = "" := rfl
  have hl := @customLoop (List (Option saml_AttributeType)) a.customAttributes
  unfold customAttr at hl
  -- no case split: each of the six blocks becomes "append `stdAttr`" as the frame reaches it.  Not the whole `gosem`:
  -- `stdStep` needs the `[] ++ _` of the first block as it stands, and no `if` is to be moved out of `seq`
  simp only [Attributes_GetSAML, Attributes_GetSAML.body, specAttrs, ite_eq_cond, cond_false, Option.isNone_some, deref_some, hdflt,
    stdStep, Ctl.seq_next, hl, Ctl.toRes_ret]
  simp only [List.nil_append, List.append_assoc]
  rfl

theorem getNameID_eq (o : Ora) (a : provider_Attributes) :
    Attributes_GetNameID o (some a) =
      .ok (some { Format := "urn:oasis:names:tc:SAML:1.1:nameid-format:emailAddress", Text := a.username }) := by
  simp [Attributes_GetNameID, Attributes_GetNameID.body]

/-- RelayState travels back byte for byte whenever the reply goes to the consumer -/
theorem C03_relay (acs binding relay : String) (hacs : acs ≠ "") :
    (binding = postBinding → deliver acs binding relay = .postForm acs relay) ∧
    (binding = redirectBinding → deliver acs binding relay = .redirect acs relay) := by
  constructor
  · intro hb; simp [deliver, hacs, hb]
  · intro hb; simp [deliver, hacs, hb, redirect_ne_post]

/-- nothing added, dropped, or reordered within a value list -/
theorem C03_specAttrs_exact (a : provider_Attributes) :
    (∀ p ∈ a.customAttributes, customAttr p ∈ specAttrs a) ∧
    (∀ x ∈ specAttrs a, (∃ p ∈ a.customAttributes, x = customAttr p) ∨
        ∃ name v, v ≠ "" ∧ x = some { Name := name, NameFormat := basicFormat, AttributeValue := [v] } ∧
          ((name = "Email" ∧ v = a.email) ∨ (name = "SurName" ∧ v = a.surname) ∨ (name = "FirstName" ∧ v = a.givenName) ∨
           (name = "FullName" ∧ v = a.fullName) ∨ (name = "UserName" ∧ v = a.username) ∨ (name = "UserID" ∧ v = a.userID))) ∧
    (a.email ≠ "" → some { Name := "Email", NameFormat := basicFormat, AttributeValue := [a.email] } ∈ specAttrs a) ∧
    (a.surname ≠ "" → some { Name := "SurName", NameFormat := basicFormat, AttributeValue := [a.surname] } ∈ specAttrs a) ∧
    (a.givenName ≠ "" → some { Name := "FirstName", NameFormat := basicFormat, AttributeValue := [a.givenName] } ∈ specAttrs a) ∧
    (a.fullName ≠ "" → some { Name := "FullName", NameFormat := basicFormat, AttributeValue := [a.fullName] } ∈ specAttrs a) ∧
    (a.username ≠ "" → some { Name := "UserName", NameFormat := basicFormat, AttributeValue := [a.username] } ∈ specAttrs a) ∧
    (a.userID ≠ "" → some { Name := "UserID", NameFormat := basicFormat, AttributeValue := [a.userID] } ∈ specAttrs a) := by
  refine ⟨?_, ?_, ?_, ?_, ?_, ?_, ?_, ?_⟩
  · intro p hp; simp only [specAttrs, List.mem_append, List.mem_map]; exact Or.inr ⟨p, hp, rfl⟩
  · intro x hx
    simp only [specAttrs, List.mem_append, List.mem_map, mem_stdAttr] at hx
    rcases hx with ((((((⟨hv, rfl⟩ | ⟨hv, rfl⟩) | ⟨hv, rfl⟩) | ⟨hv, rfl⟩) | ⟨hv, rfl⟩) | ⟨hv, rfl⟩) | ⟨p, hp, rfl⟩)
    · exact Or.inr ⟨_, _, hv, rfl, Or.inl ⟨rfl, rfl⟩⟩
    · exact Or.inr ⟨_, _, hv, rfl, Or.inr (Or.inl ⟨rfl, rfl⟩)⟩
    · exact Or.inr ⟨_, _, hv, rfl, Or.inr (Or.inr (Or.inl ⟨rfl, rfl⟩))⟩
    · exact Or.inr ⟨_, _, hv, rfl, Or.inr (Or.inr (Or.inr (Or.inl ⟨rfl, rfl⟩)))⟩
    · exact Or.inr ⟨_, _, hv, rfl, Or.inr (Or.inr (Or.inr (Or.inr (Or.inl ⟨rfl, rfl⟩))))⟩
    · exact Or.inr ⟨_, _, hv, rfl, Or.inr (Or.inr (Or.inr (Or.inr (Or.inr ⟨rfl, rfl⟩))))⟩
    · exact Or.inl ⟨p, hp, rfl⟩
  all_goals (intro h; simp [specAttrs, mem_stdAttr, h])

/-- **C03 (window).** With a time layout whose formatter/parser satisfy `parse (format t) ≤ t < parse (format t) + g`
    (g = the layout's granularity) and a lifetime `exp ≥ g`: NotBefore = IssueInstant ≤ now < NotOnOrAfter, and
    NotOnOrAfter is IssueInstant + lifetime up to the granularity. -/
theorem C03_window (format : Int → String) (parse : String → Int) (g exp now : Int)
    (hfmt : ∀ t, parse (format t) ≤ t ∧ t < parse (format t) + g) (hexp : g ≤ exp) :
    parse (format now) ≤ now ∧ now < parse (format (now + exp)) ∧
    parse (format now) + exp - g < parse (format (now + exp)) ∧ parse (format (now + exp)) ≤ parse (format now) + exp + g := by
  have h1 := hfmt now
  have h2 := hfmt (now + exp)
  refine ⟨h1.1, by omega, by omega, by omega⟩

/-- response and assertion IDs are distinct as soon as the ID source does not repeat -/
theorem C03_ids (i : In) (hinj : ∀ a b, i.ids a = i.ids b → a = b) : i.ids 0 ≠ i.ids 1 := by
  intro h; exact nomatch hinj 0 1 h

/-- **the builders are the generated ones**: `makeResponse` and `makeAssertion` as regenerated from response.go on
    this run never panic and construct exactly the records the callback model works with (`Builders.msgOf`,
    `Builders.assertionOf` are the projections); version "2.0"; the assertion's identifier is the one `NewID()`
    returned at its call site -/
theorem C03_builders_refine (o : Ora) (id reqID acs ii untl status msg issuer aud : String) (nameID : Option saml_NameIDType)
    (attrs : List (Option saml_AttributeType)) :
    (∃ r, Gen.makeResponse o id reqID acs ii status msg issuer = .ok (some r) ∧
        Builders.msgOf r none = Callback.mkResponse id reqID acs ii status msg issuer ∧ r.Version = "2.0") ∧
    (∃ a, Gen.makeAssertion o reqID acs "" ii untl issuer nameID attrs aud true = .ok (some a) ∧
        Builders.assertionOf a = some (Callback.mkAssertion (o.newID "makeAssertion" 0) reqID acs ii untl issuer nameID attrs aud) ∧
        a.Version = "2.0") :=
  ⟨⟨_, Builders.makeResponse_eq .., rfl, rfl⟩, ⟨_, Builders.makeAssertion_eq .., rfl, rfl⟩⟩

open Builders in
theorem makeAssertionResponse_eq (o : Ora) (resp : provider_Response) (ii untl : String) (attrs : provider_Attributes) :
    Response_makeAssertionResponse o (some resp) ii untl (some attrs) = .ok (some
      { responseRec (o.newID "Response_makeAssertionResponse" 0) resp.RequestID resp.AcsUrl ii statusSuccess "" resp.Issuer with
        Assertion := assertionRec (o.newID "makeAssertion" 0) resp.RequestID resp.AcsUrl resp.SendIP ii untl resp.Issuer
          (some { Format := "urn:oasis:names:tc:SAML:1.1:nameid-format:emailAddress", Text := attrs.username }) (specAttrs attrs)
          resp.Audience true }) := by
  simp only [Response_makeAssertionResponse, Response_makeAssertionResponse.body, gosem, makeResponse_eq, getNameID_eq, getSAML_eq,
    makeAssertion_eq, statusSuccess]

theorem makeSuccessfulResponse_eq (o : Ora) (resp : provider_Response) (attrs : provider_Attributes) (fmt : String) (exp : Int) :
    Response_makeSuccessfulResponse o (some resp) (some attrs) fmt exp =
      Response_makeAssertionResponse o (some resp) (o.m_Format o.now fmt) (o.m_Format (o.now + exp) fmt) (some attrs) := by
  simp only [Response_makeSuccessfulResponse, Response_makeSuccessfulResponse.body, gosem, makeAssertionResponse_eq]

/-- **the Success message is the generated one**: `makeSuccessfulResponse` as regenerated from response.go — through
    `makeAssertionResponse`, `makeResponse`, `makeAssertion`, `GetNameID`, `GetSAML`, all regenerated — never panics for
    the `Response` the callback fills in and builds exactly the message of the callback model's Success branch; the two
    identifiers are the ones `NewID()` returned at the two call sites, the instants are `time.Now()` and
    `time.Now().Add(expiration)` in the configured layout -/
theorem C03_success_message_is_generated (o : Ora) (i : Callback.In) (rec : Callback.Rec) (aud fmt : String) (exp : Int)
    (attrs : provider_Attributes) (resp : provider_Response)
    (hacs : resp.AcsUrl = rec.acs) (hreq : resp.RequestID = rec.reqID) (hiss : resp.Issuer = i.issuer) (haud : resp.Audience = aud)
    (hsend : resp.SendIP = "")
    (hid0 : i.ids 0 = o.newID "Response_makeAssertionResponse" 0) (hid1 : i.ids 1 = o.newID "makeAssertion" 0)
    (hii : i.issueInstant = o.m_Format o.now fmt) (hun : i.untilInstant = o.m_Format (o.now + exp) fmt) :
    ∃ r, Response_makeSuccessfulResponse o (some resp) (some attrs) fmt exp = .ok (some r) ∧
      Builders.msgOf r (Builders.assertionOf r.Assertion) =
        { Callback.mkResponse (i.ids 0) rec.reqID rec.acs i.issueInstant statusSuccess "" i.issuer with
          assertion := some (Callback.mkAssertion (i.ids 1) rec.reqID rec.acs i.issueInstant i.untilInstant i.issuer
            (some { Format := "urn:oasis:names:tc:SAML:1.1:nameid-format:emailAddress", Text := attrs.username }) (specAttrs attrs) aud) } := by
  refine ⟨_, (makeSuccessfulResponse_eq ..).trans (makeAssertionResponse_eq ..), ?_⟩
  rw [hid0, hid1, hii, hun, ← hacs, ← hreq, ← hiss, ← haud]
  simp only [Builders.msgOf, Builders.assertionOf, Builders.assertionRec, Builders.responseRec, hsend]
  rfl

/-- the failed responses of the callback are the generated `makeFailedResponse` -/
theorem C03_failed_message_is_generated (o : Ora) (i : Callback.In) (reqID acs status message fmt : String) (resp : provider_Response)
    (hacs : resp.AcsUrl = acs) (hreq : resp.RequestID = reqID) (hiss : resp.Issuer = i.issuer)
    (hid0 : i.ids 0 = o.newID "Response_makeFailedResponse" 0) (hii : i.issueInstant = o.m_Format o.now fmt) :
    ∃ r, Response_makeFailedResponse o (some resp) status message fmt = .ok (some r) ∧
      Builders.msgOf r none = Callback.failedMsg i reqID acs status message := by
  exact ⟨_, Builders.makeFailedResponse_eq .., by rw [Builders.msgOf_responseRec, Callback.failedMsg, hid0, hii, hacs, hreq, hiss]⟩

theorem C03_source_current : Consts.current = true ∧
    FactsUtil.sameHashes ["provider.NewID"] = true := ⟨Consts.current_true, FactsUtil.newID_current⟩

end C03
