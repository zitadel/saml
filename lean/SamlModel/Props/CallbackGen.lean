import SamlModel.Props.C03
import SamlModel.Props.CallbackLemmas
import SamlModel.Lemmas.GoSem
/-!
  Props.CallbackGen — `IdentityProvider.loginResponse` and `createSignature` are *translated* (go2lean regenerates them
  from login.go / response.go on every run, with `Done()`, the storage's user lookup, the key getter, `time.Now`,
  `NewID` and the two signing functions as typed oracles, the `*Response` parameter as an in-out value).  This file
  says what each of the two returns (`createSignature_eq`, `loginResponse_eq`) and links `loginResponse` to the
  hand-written callback model (`callback_follows_login`): whatever the generated code returns (for a request with an
  id, `Done()` as stored, and a user lookup that hands back its record), `Callback.callback` fed from the same oracle
  answers replies with exactly that status / exactly that message.  The theorems of C01, C03 and
  C04 about the callback model are thereby theorems about the regenerated decision path; Props.HandlerGen extends this
  to the whole of `callbackHandleFunc`, which is translated too, with its prologue (form, id, `AuthRequestByID`,
  `GetEntityIDByAppID`) and its `sendBackResponse` calls.
-/
namespace CallbackGen
open Go Gen Consts

variable (o : Ora) (cfg : provider_IdentityProviderConfig) (fmt : String) (exp : Int) (resp : provider_Response)

/-- the identity provider value `loginResponse` reads: configuration, time layout, assertion lifetime -/
def idp : Option provider_IdentityProvider := some { conf := some cfg, storage := (), TimeFormat := fmt, Expiration := exp }

theorem idp_isNone : (idp cfg fmt exp).isNone = false := rfl
theorem idp_timeFormat : (deref (idp cfg fmt exp)).TimeFormat = fmt := rfl
theorem idp_expiration : (deref (idp cfg fmt exp)).Expiration = exp := rfl
theorem idp_conf : (deref (idp cfg fmt exp)).conf = some cfg := rfl
attribute [gosem] idp_isNone idp_timeFormat idp_expiration idp_conf

/-- `storage.SetUserinfoWithUserID(ctx, appID, attrs, userID, nil)`: the error and the attribute record it filled -/
def userinfo : Err × Option provider_Attributes := o.m_SetUserinfoWithUserID o.m_GetApplicationID o.m_GetUserID []

/-- the response `createSignature` hands back: with the query-string signature fields set for a redirect delivery -/
def signedResp (sig alg : String) : provider_Response := { resp with Signature := sig, SigAlg := alg }

/-- what `createSignature` answers: for a redirect delivery (binding Redirect and a consumer URL) the query-string
    signature over the stored RelayState, put into the response; otherwise the enveloped signature, the response as it was -/
def signed (r : Option samlp_ResponseType) (k : Option KeyRec) (c : Lib.Bytes) (alg : String) : Err × Option provider_Response :=
  if resp.ProtocolBinding = redirectBinding ∧ resp.AcsUrl ≠ "" then
    match o.f_createRedirectSignature r k c alg resp.RelayState with
    | (sig, a, none) => (none, some (signedResp resp sig a))
    | (_, _, some e) => (some ("failed to sign response: " ++ e), some resp)
  else ((o.f_createPostSignature r k c alg).map ("failed to sign response: " ++ ·), some resp)

theorem createSignature_eq (r : Option samlp_ResponseType) (k : Option KeyRec) (c : Lib.Bytes) (alg : String) :
    createSignature o (some resp) r k c alg = .ok (signed o resp r k c alg) := by
  -- the two deliveries leave different frames behind and much follows: the condition is decided before the body runs
  unfold signed
  by_cases hb : resp.ProtocolBinding = redirectBinding ∧ resp.AcsUrl ≠ ""
  · have hb' : resp.ProtocolBinding = "urn:oasis:names:tc:SAML:2.0:bindings:HTTP-Redirect" ∧ ¬ resp.AcsUrl = "" := hb
    rw [if_pos hb]
    rcases hs : o.f_createRedirectSignature r k c alg resp.RelayState with ⟨sig, a, e⟩
    cases e <;> simp [createSignature, createSignature.body, gosem, hb'.1, hb'.2, hs, signedResp]
  · have hb' : ¬ (resp.ProtocolBinding = "urn:oasis:names:tc:SAML:2.0:bindings:HTTP-Redirect" ∧ ¬ resp.AcsUrl = "") := hb
    rw [if_neg hb]
    cases hp : o.f_createPostSignature r k c alg <;> simp [createSignature, createSignature.body, gosem, hb', hp]

/-- what `loginResponse` returns: the `Done()` gate, the user lookup, the signing key, the Success message, its signature -
    each failure an error text that is a status code, and the response handed back as `createSignature` left it -/
def login : Res (Option samlp_ResponseType × Err × Option provider_Response) :=
  if o.m_Done = false then .ok (none, some statusAuthnFailed, some resp) else
  match (userinfo o).1 with
  | some _ => .ok (none, some statusInvalidAttr, some resp)
  | none =>
    match getResponseCert o () with
    | .panic => .panic
    | .ok (_, _, some _) => .ok (none, some statusInvalidAttr, some resp)
    | .ok (c, k, none) =>
      match Response_makeSuccessfulResponse o (some resp) (userinfo o).2 fmt exp with
      | .panic => .panic
      | .ok r =>
        match signed o resp r k c cfg.SignatureAlgorithm with
        | (some _, resp') => .ok (none, some statusResponder, resp')
        | (none, resp') => .ok (r, none, resp')

theorem loginResponse_eq :
    IdentityProvider_loginResponse o (idp cfg fmt exp) () (some resp) = login o cfg fmt exp resp := by
  rcases hu : o.m_SetUserinfoWithUserID o.m_GetApplicationID o.m_GetUserID [] with ⟨ue, attrs⟩
  rcases hk : getResponseCert o () with ⟨c, k, kerr⟩ | _
  · rcases hr : Response_makeSuccessfulResponse o (some resp) attrs fmt exp with r | _
    · rcases hs : signed o resp r k c cfg.SignatureAlgorithm with ⟨se, resp'⟩
      simp only [IdentityProvider_loginResponse, IdentityProvider_loginResponse.body, gosem, hu, hk, hr, createSignature_eq, hs, login,
        userinfo, statusAuthnFailed, statusInvalidAttr, statusResponder]
      simp only [Bool.cond_eq_ite]
      cases o.m_Done <;> cases ue <;> cases kerr <;> cases se <;> simp [hs]
    · simp only [IdentityProvider_loginResponse, IdentityProvider_loginResponse.body, gosem, hu, hk, hr, login, userinfo,
        statusAuthnFailed, statusInvalidAttr]
      simp only [Bool.cond_eq_ite]
      cases o.m_Done <;> cases ue <;> cases kerr <;> simp
  · simp only [IdentityProvider_loginResponse, IdentityProvider_loginResponse.body, gosem, hu, hk, login, userinfo,
      statusAuthnFailed, statusInvalidAttr]
    simp only [Bool.cond_eq_ite]
    cases o.m_Done <;> cases ue <;> simp

/-- the `Response` `callbackHandleFunc` has filled in when it calls `loginResponse` (login.go: Issuer from the
    context, the four delivery parameters from the stored request, Audience from `GetEntityIDByAppID`) -/
def respOf (issuer : String) (rec : Callback.Rec) (aud : String) : provider_Response :=
  { ProtocolBinding := rec.binding, RelayState := rec.relay, AcsUrl := rec.acs, Signature := "", SigAlg := "",
    RequestID := rec.reqID, Issuer := issuer, Audience := aud, SendIP := "" }

/-- the input of the callback model that corresponds to the oracle answers the generated code sees -/
def inOf (issuer id : String) (rec : Callback.Rec) (aud : String) (ids : Nat → String) : Callback.In :=
  { issuer := issuer, id := id, stored := some rec, entity := some aud,
    userinfo := if (userinfo o).1 = none then (userinfo o).2 else none,
    signOk :=
      match (userinfo o).2, getResponseCert o () with
      | some attrs, .ok (c, k, none) =>
        match Response_makeSuccessfulResponse o (some (respOf issuer rec aud)) (some attrs) fmt exp with
        | .ok (some r) =>
          if rec.binding = redirectBinding ∧ rec.acs ≠ "" then
            (o.f_createRedirectSignature (some r) k c cfg.SignatureAlgorithm rec.relay).2.2.isNone
          else (o.f_createPostSignature (some r) k c cfg.SignatureAlgorithm).isNone
        | _ => true
      | _, _ => true,
    issueInstant := o.m_Format o.now fmt, untilInstant := o.m_Format (o.now + exp) fmt, ids := ids }

/-- `loginResponse` got as far as building the Success message (which draws the first two identifiers) -/
def reached : Bool :=
  o.m_Done && (userinfo o).1.isNone &&
    (match getResponseCert o () with
     | .ok (_, _, none) => true
     | _ => false)

section follows
open Builders
-- the model on the input read off from the oracles is unfolded in every case below
attribute [local simp] Callback.callback inOf Callback.failedMsg C03.getNameID_eq C03.getSAML_eq

/-- **the callback model follows the generated `loginResponse`**: where that panics the model panics; an error text is the
    status of the model's failed Response (which draws the third identifier when the Success message had been built, the
    first otherwise), the response handed back untouched; a message is the model's Success message, given the two
    identifiers as the generated code draws them -/
theorem callback_follows_login (issuer id : String) (rec : Callback.Rec) (aud : String) (ids : Nat → String) (hid : id ≠ "")
    (hdone : o.m_Done = rec.done) (hsome : (userinfo o).1 = none → (userinfo o).2.isSome) :
    match IdentityProvider_loginResponse o (idp cfg fmt exp) () (some (respOf issuer rec aud)) with
    | .panic => Callback.callback o (inOf o cfg fmt exp issuer id rec aud ids) = .panic
    | .ok (m, some status, r') =>
      m = none ∧ r' = some (respOf issuer rec aud) ∧
      Callback.callback o (inOf o cfg fmt exp issuer id rec aud ids) =
        .reply (Callback.deliver rec.acs rec.binding rec.relay)
          (Callback.mkResponse (ids (if reached o then 2 else 0)) rec.reqID rec.acs (o.m_Format o.now fmt) status
            "failed to create response" issuer) .none
    | .ok (m, none, r') =>
      reached o = true ∧ ∃ r sig a, m = some r ∧ (assertionOf r.Assertion).isSome ∧ r' = some (signedResp (respOf issuer rec aud) sig a) ∧
        (ids 0 = o.newID "Response_makeAssertionResponse" 0 → ids 1 = o.newID "makeAssertion" 0 →
          Callback.callback o (inOf o cfg fmt exp issuer id rec aud ids) =
            .reply (Callback.deliver rec.acs rec.binding rec.relay) (msgOf r (assertionOf r.Assertion))
              (Callback.sigStyle rec.acs rec.binding)) := by
  have hidb : (id == "") = false := by simpa using hid
  rw [loginResponse_eq]
  unfold login
  cases hd : rec.done with
  | false =>
    rw [hdone, hd, if_pos rfl]
    exact ⟨rfl, rfl, by simp [hidb, hd, reached, hdone]⟩
  | true =>
    rw [hdone, hd, if_neg (by simp)]
    cases hu : (userinfo o).1 with
    | some e =>
      exact ⟨rfl, rfl, by simp [hidb, hd, hu, reached]⟩
    | none =>
      obtain ⟨attrs, ha⟩ := Option.isSome_iff_exists.mp (hsome hu)
      rcases hk : getResponseCert o () with ⟨c, k, _ | e⟩ | _
      · obtain ⟨r0, hr0, has⟩ :
            ∃ r0, Response_makeSuccessfulResponse o (some (respOf issuer rec aud)) (some attrs) fmt exp = .ok (some r0) ∧
              (assertionOf r0.Assertion).isSome := ⟨_, (C03.makeSuccessfulResponse_eq ..).trans (C03.makeAssertionResponse_eq ..), rfl⟩
        have hre : reached o = true := by simp [reached, hdone, hd, hu, hk]
        -- with the two identifiers as the generated code draws them, `r0` is the model's Success message
        have hmsg : ids 0 = o.newID "Response_makeAssertionResponse" 0 → ids 1 = o.newID "makeAssertion" 0 →
            msgOf r0 (assertionOf r0.Assertion) = Callback.successMsg (inOf o cfg fmt exp issuer id rec aud ids) rec aud attrs := by
          intro hid0 hid1
          obtain ⟨r, hr, hm⟩ := C03.C03_success_message_is_generated o (inOf o cfg fmt exp issuer id rec aud ids)
            rec aud fmt exp attrs (respOf issuer rec aud) rfl rfl rfl rfl rfl hid0 hid1 rfl rfl
          rw [hr0] at hr; cases hr; exact hm
        rw [ha, hr0]
        simp only [signed, show (respOf issuer rec aud).ProtocolBinding = rec.binding from rfl,
          show (respOf issuer rec aud).AcsUrl = rec.acs from rfl, show (respOf issuer rec aud).RelayState = rec.relay from rfl]
        by_cases hbr : rec.binding = redirectBinding ∧ rec.acs ≠ ""
        · rw [if_pos hbr]
          rcases hs : o.f_createRedirectSignature (some r0) k c cfg.SignatureAlgorithm rec.relay with ⟨sg, al, _ | e⟩
          · refine ⟨hre, r0, sg, al, rfl, has, rfl, fun hid0 hid1 => ?_⟩
            rw [hmsg hid0 hid1]
            simp [hidb, hd, hu, ha, hk, hr0, hbr, hs, Callback.successMsg]
          · exact ⟨rfl, rfl, by simp [hidb, hd, hu, ha, hk, hr0, hbr, hs, hre]⟩
        · rw [if_neg hbr]
          cases hs : o.f_createPostSignature (some r0) k c cfg.SignatureAlgorithm with
          | none =>
            refine ⟨hre, r0, "", "", rfl, has, rfl, fun hid0 hid1 => ?_⟩
            rw [hmsg hid0 hid1]
            simp [hidb, hd, hu, ha, hk, hr0, hbr, hs, Callback.successMsg]
          | some e =>
            exact ⟨rfl, rfl, by simp [hidb, hd, hu, ha, hk, hr0, hbr, hs, hre]⟩
      · exact ⟨rfl, rfl, by simp [hidb, hd, hu, ha, hk, reached]⟩
      · simp [hidb, hd, hu, ha, hk]

end follows

/-- **whenever the generated `loginResponse` returns an error, the callback model answers with a failed Response whose
    status code is exactly that error text** (how `callbackHandleFunc` uses it), carrying no assertion, addressed with
    the stored delivery parameters, unsigned -/
theorem generated_failure (issuer id : String) (rec : Callback.Rec) (aud : String) (ids : Nat → String) (hid : id ≠ "")
    (hdone : o.m_Done = rec.done) (hsome : (userinfo o).1 = none → (userinfo o).2.isSome)
    (status : String) (r' : Option provider_Response)
    (hgen : IdentityProvider_loginResponse o (idp cfg fmt exp) () (some (respOf issuer rec aud)) = .ok (none, some status, r')) :
    ∃ m, Callback.callback o (inOf o cfg fmt exp issuer id rec aud ids) =
        .reply (Callback.deliver rec.acs rec.binding rec.relay) m .none ∧
      m.status = status ∧ m.assertion = none ∧ m.inResponseTo = rec.reqID ∧ m.destination = rec.acs ∧ m.issuer = issuer := by
  have h := callback_follows_login o cfg fmt exp issuer id rec aud ids hid hdone hsome
  rw [hgen] at h
  exact ⟨_, h.2.2, rfl, rfl, rfl, rfl, rfl⟩

/-- **whenever the generated `loginResponse` returns a response, it is the Success message of the callback model**,
    signed in the style of the delivery: the callback model's reply carries exactly the message the generated builders
    produced (identifiers and instants as drawn by the generated code) -/
theorem generated_success (issuer id : String) (rec : Callback.Rec) (aud : String) (ids : Nat → String) (hid : id ≠ "")
    (hdone : o.m_Done = rec.done) (hsome : (userinfo o).1 = none → (userinfo o).2.isSome)
    (hid0 : ids 0 = o.newID "Response_makeAssertionResponse" 0) (hid1 : ids 1 = o.newID "makeAssertion" 0)
    (r : samlp_ResponseType) (r' : Option provider_Response)
    (hgen : IdentityProvider_loginResponse o (idp cfg fmt exp) () (some (respOf issuer rec aud)) = .ok (some r, none, r')) :
    Callback.callback o (inOf o cfg fmt exp issuer id rec aud ids) =
      .reply (Callback.deliver rec.acs rec.binding rec.relay) (Builders.msgOf r (Builders.assertionOf r.Assertion))
        (Callback.sigStyle rec.acs rec.binding) ∧ rec.done = true := by
  have h := callback_follows_login o cfg fmt exp issuer id rec aud ids hid hdone hsome
  rw [hgen] at h
  obtain ⟨hre, r0, _, _, hr, _, _, hc⟩ := h
  cases hr
  refine ⟨hc hid0 hid1, ?_⟩
  rw [← hdone]
  simp only [reached, Bool.and_eq_true] at hre
  exact hre.1.1

end CallbackGen
