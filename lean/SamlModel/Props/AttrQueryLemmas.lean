import SamlModel.Model.AttrQuery
import SamlModel.Props.FnLemmas
import SamlModel.Props.C03
/-!
  Lemmas about the attribute-query model shared by C04, C09, C10, C12 and AttrQueryProps: `attrQuery_ends` says once how
  a run of the eight steps can end and what had passed before; the property files read their statements off it.
  `C07_attrq` (a conformant query is answered) is the one property theorem that unfolds the model instead.
-/
namespace AttrQuery
open Go Gen Consts FnLemmas

/-- every step passed -/
structure Answered (o : Ora) (i : In) (q : samlp_AttributeQueryType) (iss subj : saml_NameIDType)
    (sp : serviceprovider_ServiceProvider) (m : md_EntityDescriptorType) (attrs : provider_Attributes) : Prop where
  hmeta : i.metaErr = false
  hbody : i.bodyErr = false
  hdec : i.decoded = some (some q)
  hiss : q.Issuer = some iss
  hsp : i.sp = some sp
  h4 : Sso.condStep (certificateCheckNecessary o q.Signature sp.Metadata) (checkCertificate o q.Signature sp.Metadata) = .ok none
  h5 : embProvided q.Signature = true → i.sigOk = true
  h6 : verifyRequestDestinationOfAttrQuery o i.aaMeta (some q) = .ok none
  hsubj : q.Subject.NameID = some subj
  hui : i.userinfo = some attrs
  hm : sp.Metadata = some m
  hkey : ∃ cert key, getResponseCert o () = .ok (cert, key, none)
  hsign : i.signOk = true

/-- the answer to query `q` of the service provider with metadata `m` about the user `attrs` found for `subj` -/
def answerOf (i : In) (q : samlp_AttributeQueryType) (subj : saml_NameIDType) (m : md_EntityDescriptorType)
    (attrs : provider_Attributes) : Answer :=
  { inResponseTo := q.Id, issuer := i.issuer, audience := m.EntityID,
    nameID := some { Format := "urn:oasis:names:tc:SAML:1.1:nameid-format:emailAddress", Text := attrs.username },
    attributes := filterAttrs (C03.specAttrs attrs) q.Attribute, lookedUp := subj.Text }

inductive Ends (o : Ora) (i : In) : Out → Prop
  | refused : Ends o i (.httpError 500)
  | panic {q : samlp_AttributeQueryType} {sp : serviceprovider_ServiceProvider} : i.metaErr = false → i.sp = some sp →
      Sso.condStep (certificateCheckNecessary o q.Signature sp.Metadata) (checkCertificate o q.Signature sp.Metadata) = .panic ∨
      verifyRequestDestinationOfAttrQuery o i.aaMeta (some q) = .panic ∨ sp.Metadata = none ∨ getResponseCert o () = .panic →
      Ends o i .panic
  | answer {q iss subj sp m attrs} : Answered o i q iss subj sp m attrs → Ends o i (.answer (answerOf i q subj m attrs))

theorem attrQuery_ends (o : Ora) (i : In) : Ends o i (attrQuery o i) := by
  unfold attrQuery
  by_cases hmeta : i.metaErr = true
  · rw [if_pos hmeta]; exact .refused
  rw [if_neg hmeta]
  by_cases hbody : i.bodyErr = true
  · rw [if_pos hbody]; exact .refused
  rw [if_neg hbody]
  have hmeta' : i.metaErr = false := by simpa using hmeta
  split
  next => exact .refused
  next => exact .refused
  next q hdec =>
  split
  next => exact .refused
  next iss hiss =>
  split
  next => exact .refused
  next sp hsp =>
  split
  next h => exact .panic (q := q) hmeta' hsp (.inl h)
  next e4 h4 =>
  cases e4 with
  | some _ => exact .refused
  | none =>
  rw [if_neg (by simp), signaturePostProvided_eq]
  dsimp only
  by_cases h5 : (embProvided q.Signature && !i.sigOk) = true
  · rw [if_pos h5]; exact .refused
  rw [if_neg h5]
  split
  next h => exact .panic (q := q) hmeta' hsp (.inr (.inl h))
  next e6 h6 =>
  cases e6 with
  | some _ => exact .refused
  | none =>
  rw [if_neg (by simp)]
  split
  next => exact .refused
  next subj hsubj =>
  split
  next => exact .refused
  next attrs hui =>
  rw [C03.getSAML_eq, C03.getNameID_eq, getEntityID_eq]
  cases hm : sp.Metadata with
  | none => exact .panic (q := q) hmeta' hsp (.inr (.inr (.inl hm)))
  | some m =>
  dsimp only
  split
  next h => exact .panic (q := q) hmeta' hsp (.inr (.inr (.inr h)))
  next cert key kerr hkey =>
  cases kerr with
  | some _ => exact .refused
  | none =>
  rw [if_neg (by simp)]
  by_cases hsign : i.signOk = true
  · rw [if_neg (by simp [hsign])]
    exact .answer ⟨hmeta', by simpa using hbody, hdec, hiss, hsp, h4, by simpa using h5, h6, hsubj, hui, hm, ⟨_, _, hkey⟩, hsign⟩
  · rw [if_pos (by simpa using hsign)]; exact .refused

/-- an answer is given only after every step passed, and it is `answerOf` what the steps found -/
theorem answered {o : Ora} {i : In} {a : Answer} (h : attrQuery o i = .answer a) :
    ∃ q iss subj sp m attrs, Answered o i q iss subj sp m attrs ∧ a = answerOf i q subj m attrs := by
  have he := attrQuery_ends o i
  rw [h] at he
  cases he with
  | answer ha => exact ⟨_, _, _, _, _, _, ha, rfl⟩

end AttrQuery
