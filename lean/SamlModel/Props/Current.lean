import SamlModel.Model.Consts
/-!
  Ties to the source that several properties list among their obligations, each decided once.

  These are closed facts about string tables regenerated from /repo.  They are evaluated by the kernel
  (`decide +kernel`): comparing string literals is slow in the elaborator's evaluator, which plain `decide` would
  run before the kernel does the same work again.
-/

theorem Consts.current_true : Consts.current = true := by decide +kernel

/-- `NewID` is the function `Lib.Uuid.newID` was modelled from -/
theorem FactsUtil.newID_current : FactsUtil.sameHashes ["provider.NewID"] = true := by decide +kernel

namespace Consts

theorem requestDenied_ne_success : statusRequestDenied ≠ statusSuccess := by simp [statusRequestDenied, statusSuccess]

theorem unsupportedBinding_ne_success : statusUnsupportedBinding ≠ statusSuccess := by
  simp [statusUnsupportedBinding, statusSuccess]

theorem responder_ne_success : statusResponder ≠ statusSuccess := by simp [statusResponder, statusSuccess]

theorem authnFailed_ne_success : statusAuthnFailed ≠ statusSuccess := by simp [statusAuthnFailed, statusSuccess]

theorem invalidAttr_ne_success : statusInvalidAttr ≠ statusSuccess := by simp [statusInvalidAttr, statusSuccess]

theorem redirect_ne_post : redirectBinding ≠ postBinding := by simp [redirectBinding, postBinding]

end Consts
