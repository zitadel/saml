import SamlModel.Props.SsoLemmas
import SamlModel.Props.C01
import SamlModel.Props.AttrQueryLemmas
import SamlModel.Props.C13
import SamlModel.Props.MetadataLemmas
/-!
  C10 — Storage and key failures fail closed.  In the handler models a storage or key operation is an input
  whose failure is `none` / `false` / an error in the oracle record; the theorems say that every such failure
  ends in an error reply: no Success assertion, no user data, no signed metadata, no persistence afterwards.
-/
namespace C10
open Go Gen Consts

/-- the response-signing-key getter fails: a returned error, a nil record, a missing key or certificate, an
    empty certificate — everything the generated `getResponseCert` turns into an error -/
def respKeyFails (o : Ora) : Prop := ∃ cert key e, getResponseCert o () = .ok (cert, key, some e)

theorem C10_sso_key_failure (o : Ora) (i : Sso.In) (h : i.metaErr = true) :
    Sso.sso o i = { out := .httpError 500, persist := none } := by
  unfold Sso.sso; simp [h]

theorem C10_sso_lookup_failure (o : Ora) (i : Sso.In) (h : i.sp = none) :
    (∀ id, (Sso.sso o i).out ≠ .login id) ∧ (Sso.sso o i).persist = none := by
  constructor
  · intro id hl
    obtain ⟨_, _, _, sp, _, _, a⟩ := Sso.accepted_of_login hl
    exact nomatch h.symm.trans a.hsp
  · cases hp : (Sso.sso o i).persist with
    | none => rfl
    | some p =>
      obtain ⟨_, _, _, _, _, _, f, _⟩ := Sso.persisted_inv hp
      exact nomatch h.symm.trans f.hsp

theorem C10_sso_persist_failure (o : Ora) (i : Sso.In) (h : i.createOk = false) :
    (∀ id, (Sso.sso o i).out ≠ .login id) ∧ (∀ p, (Sso.sso o i).persist = some p → p.ok = false) := by
  have hno : ∀ id, (Sso.sso o i).out ≠ .login id := by
    intro id hl
    obtain ⟨_, _, _, _, _, _, a⟩ := Sso.accepted_of_login hl
    exact nomatch h.symm.trans a.hcreate
  refine ⟨hno, ?_⟩
  intro p hp
  obtain ⟨_, _, _, _, _, _, _, _, _, rfl, _⟩ := Sso.persisted_inv hp
  exact h

theorem C10_callback_fail_closed (o : Ora) (i : Callback.In)
    (h : i.stored = none ∨ i.entity = none ∨ i.userinfo = none ∨ i.signOk = false ∨ respKeyFails o) :
    ¬ C01.successOut (Callback.callback o i) := by
  intro hs
  obtain ⟨_, _, rec, hrec, _, hent, hui, hsign, cert, key, hkey⟩ := C01.C01_success_only_if_done o i hs
  rcases h with h | h | h | h | ⟨c, k, e, h⟩
  · cases h.symm.trans hrec
  · exact nomatch h ▸ hent
  · exact nomatch h ▸ hui
  · cases h.symm.trans hsign
  · cases h.symm.trans hkey

/-- and then nothing about the user is in the reply (C01_no_leak) -/
theorem C10_callback_no_user_data (o : Ora) (i : Callback.In) (d : Callback.Delivery) (m : Callback.Msg) (s : Callback.Sig)
    (hr : Callback.callback o i = .reply d m s)
    (h : i.stored = none ∨ i.entity = none ∨ i.userinfo = none ∨ i.signOk = false ∨ respKeyFails o) :
    m.status ≠ statusSuccess ∧ m.assertion = none ∧ s = .none := by
  have hns : m.status ≠ statusSuccess := fun hst => C10_callback_fail_closed o i h ⟨d, m, s, hr, hst⟩
  exact ⟨hns, C01.C01_no_leak o i d m s hr hns⟩

/-- the entity lookup failure is an HTTP 500 -/
theorem C10_callback_entity_failure (o : Ora) (i : Callback.In) (rec : Callback.Rec) (hp : i.parseErr = false) (hid : i.id ≠ "")
    (hr : i.stored = some rec) (he : i.entity = none) : Callback.callback o i = .httpError 500 := by
  unfold Callback.callback; simp [hp, hid, hr, he]

theorem C10_logout_lookup_failure (o : Ora) (i : Logout.In) (h : i.sp = none) :
    ¬ ∃ d m, Logout.logout o i = .reply d m ∧ m.status = statusSuccess := by
  intro hs
  have hw : ∀ sp, i.sp = some sp → C13.SpWF sp := fun sp hsp => nomatch h.symm.trans hsp
  obtain ⟨req, sp, _, _, _, hsp, _⟩ := (C13.C13_success_iff o i hw).mp hs
  exact nomatch h.symm.trans hsp

theorem C10_attrquery_fail_closed (o : Ora) (i : AttrQuery.In) (a : AttrQuery.Answer)
    (h : i.sp = none ∨ i.userinfo = none ∨ i.signOk = false ∨ i.metaErr = true) :
    AttrQuery.attrQuery o i ≠ .answer a := by
  intro ha
  obtain ⟨_, _, _, _, _, _, w, _⟩ := AttrQuery.answered ha
  rcases h with h | h | h | h
  · exact nomatch h.symm.trans w.hsp
  · exact nomatch h.symm.trans w.hui
  · exact nomatch h.symm.trans w.hsign
  · exact nomatch h.symm.trans w.hmeta

theorem C10_attrquery_key_failure (o : Ora) (i : AttrQuery.In) (a : AttrQuery.Answer) (h : respKeyFails o) :
    AttrQuery.attrQuery o i ≠ .answer a := by
  intro ha
  obtain ⟨c, k, e, hk⟩ := h
  obtain ⟨_, _, _, _, _, _, an, _⟩ := AttrQuery.answered ha
  obtain ⟨c', k', hk'⟩ := an.hkey
  exact nomatch hk.symm.trans hk'

theorem C10_metadata_key_failure (o : Ora) (c : Metadata.Cfg) (i : Metadata.In) (h : respKeyFails o) :
    Metadata.metadata o c i = .httpError 500 := by
  obtain ⟨ce, k, e, hk⟩ := h
  unfold Metadata.metadata; simp [hk]

/-- no signed metadata after a metadata-key or signing failure -/
theorem C10_metadata_signing_failure (o : Ora) (c : Metadata.Cfg) (i : Metadata.In) (hs : c.signMetadata = true)
    (h : i.metaKeyOk = false ∨ i.signOk = false) : ∀ d, Metadata.metadata o c i ≠ .doc d := by
  intro d hd
  obtain ⟨_, _, _, _, hok⟩ := Metadata.metadata_doc o c i d hd
  rcases h with h | h
  · exact nomatch (hok hs).1.symm.trans h
  · exact nomatch (hok hs).2.symm.trans h

theorem C10_certificate_key_failure (o : Ora) (h : respKeyFails o) : Metadata.certificate o = .httpError 500 := by
  obtain ⟨ce, k, e, hk⟩ := h
  unfold Metadata.certificate; simp [hk]

theorem C10_readiness (i : Metadata.In) (h : i.healthOk = false) : Metadata.ready i = .httpError 500 := by
  unfold Metadata.ready; simp [h]

/-- which key shapes count as failure: the generated `getResponseCert` on what storage returns -/
theorem C10_key_shapes (o : Ora) (h : o.m_GetResponseSigningKey.2.isSome ∨ o.m_GetResponseSigningKey.1 = none ∨
      (∃ ck, o.m_GetResponseSigningKey.1 = some ck ∧ (ck.Key = none ∨ ck.Certificate = []))) :
    respKeyFails o := by
  obtain ⟨e, he⟩ := Option.isSome_iff_exists.mp ((FnLemmas.certSpec_fails _).mpr h)
  exact ⟨_, _, e, by rw [FnLemmas.getResponseCert_eq, ← he]⟩

theorem C10_source_current :
    FactsUtil.sameHashes ["provider.Readiness", "provider.ReadyStorage"] = true := by decide +kernel

end C10
