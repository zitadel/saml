import SamlModel.Props.SsoLemmas
import SamlModel.Props.FnLemmas
/-!
  C05 — Unsigned or forged AuthnRequests are never accepted when signing is required.
  RSA and XML-DSig validation are oracles (`o.m_ValidateRedirectSignature`, `o.m_ValidatePostSignature`:
  the library methods of the same names, sampled by the harness with real keys); everything around them —
  when verification is necessary, over which values, in which order relative to persistence — is proved.
-/
namespace C05
open Go Gen Sso FnLemmas Consts

/-- signing is required by the service provider's metadata or by the IdP configuration, in any xs:boolean
    `true` form (missing metadata counts as "required", as in the code) -/
def required (i : In) (sp : serviceprovider_ServiceProvider) : Bool := spRequires sp.Metadata || idpRequires i.idpMeta

/-- the binding decision of `getAuthRequestFromRequest` is one of the two bindings (the function is translated:
    `SsoGen.getForm_eq`; the form it yields, `SsoGen.theForm`, has this property) -/
def Form.WF (f : Form) : Prop := f.Binding = redirectBinding ∨ f.Binding = postBinding

/-- the Redirect signature verified over exactly the request, RelayState and algorithm the IdP acts on -/
def redirectVerified (o : Ora) (form : Form) (sp : serviceprovider_ServiceProvider) : Prop :=
  form.Binding = redirectBinding ∧ form.AuthRequest ≠ "" ∧ form.Sig ≠ "" ∧ form.SigAlg ≠ "" ∧
  o.m_ValidateRedirectSignature (some sp) form.AuthRequest form.RelayState form.SigAlg form.Sig = none

/-- the enveloped signature of the POSTed document verified under the registered certificates -/
def postVerified (o : Ora) (form : Form) (sp : serviceprovider_ServiceProvider) : Prop :=
  form.Binding = postBinding ∧
  ∃ data, Lib.b64decode form.AuthRequest = some data ∧ o.m_ValidatePostSignature (some sp) (Lib.bytesToString data) = none

/-- **C05 (first sentence).** When signing is required, an accepted request carries a signature that
    verified — for the binding in effect — over exactly the content the IdP then persists. -/
theorem C05_required_implies_verified (o : Ora) (i : In) (id : String) (h : (sso o i).out = .login id) :
    ∃ form req sp p, i.form = some form ∧ i.decoded = some req ∧ i.sp = some sp ∧ (sso o i).persist = some p ∧
      p.relay = form.RelayState ∧ p.reqID = req.Id ∧
      (Form.WF form → required i sp = true → redirectVerified o form sp ∨ postVerified o form sp) := by
  obtain ⟨form, req, iss, sp, acsList, sel, a⟩ := accepted_of_login h
  refine ⟨form, req, sp, _, a.hform, a.hdec, a.hsp, a.hpersist, rfl, rfl, ?_⟩
  intro hwf hreq
  unfold required at hreq
  rcases hwf with hb | hb
  · exact Or.inl ⟨hb, redirectStep_ok.mp a.h7 hb (by simp [hreq])⟩
  · exact Or.inr ⟨hb, postStep_ok.mp a.h8 hb (by simp [hreq])⟩

/-- **C05 (second sentence).** Whatever the configuration: an accepted request that bears a non-empty
    signature value — as a `Signature` parameter or embedded in the document — had that signature verified
    (a signature in the place the binding in use does not define is rejected outright). -/
theorem C05_bad_signature_never_accepted (o : Ora) (i : In) (id : String) (h : (sso o i).out = .login id) :
    ∃ form req sp, i.form = some form ∧ i.decoded = some req ∧ i.sp = some sp ∧
      (Form.WF form → form.Sig ≠ "" → redirectVerified o form sp) ∧
      (Form.WF form → embProvided req.Signature = true → postVerified o form sp) := by
  obtain ⟨form, req, iss, sp, acsList, sel, a⟩ := accepted_of_login h
  obtain ⟨emb, hemb, hnp, hnr⟩ := a.h9
  rw [signaturePostProvided_eq] at hemb
  cases hemb
  refine ⟨form, req, sp, a.hform, a.hdec, a.hsp, ?_, ?_⟩
  · intro hwf hs
    -- step 9 leaves a `Signature` parameter to the Redirect binding only
    have hb : form.Binding = redirectBinding := hwf.resolve_right fun hb => hnp ⟨hb, hs⟩
    exact ⟨hb, redirectStep_ok.mp a.h7 hb (by simp [hs])⟩
  · intro hwf he
    have hb : form.Binding = postBinding := hwf.resolve_left fun hb => hnr ⟨hb, he⟩
    exact ⟨hb, postStep_ok.mp a.h8 hb (by simp [he])⟩

/-- every xs:boolean spelling of `true` counts: "true" and "1", on either side -/
theorem C05_xs_boolean (i : In) (sp : serviceprovider_ServiceProvider) (m : md_EntityDescriptorType) (d : md_SPSSODescriptorType)
    (hm : sp.Metadata = some m) (hd : m.SPSSODescriptor = some d) (h : d.AuthnRequestsSigned = "true" ∨ d.AuthnRequestsSigned = "1") :
    required i sp = true := by
  rcases h with h | h <;> simp [required, spRequires, hm, hd, h, xsTrue]

theorem C05_xs_boolean_idp (i : In) (sp : serviceprovider_ServiceProvider) (md : md_IDPSSODescriptorType)
    (hm : i.idpMeta = some md) (h : md.WantAuthnRequestsSigned = "true" ∨ md.WantAuthnRequestsSigned = "1") :
    required i sp = true := by
  rcases h with h | h <;> simp [required, idpRequires, hm, h, xsTrue]

/-- a KeyInfo in the request must name a registered certificate (step 6 precedes persistence) -/
theorem C05_keyinfo_must_be_registered (o : Ora) (i : In) (id : String) (h : (sso o i).out = .login id) :
    ∃ req sp, i.decoded = some req ∧ i.sp = some sp ∧
      (certificateCheckNecessary o req.Signature sp.Metadata = .ok true → checkCertificate o req.Signature sp.Metadata = .ok none) := by
  obtain ⟨form, req, iss, sp, acsList, sel, a⟩ := accepted_of_login h
  exact ⟨req, sp, a.hdec, a.hsp, condStep_true a.h6⟩

theorem C05_source_current : True ∧ Consts.current = true ∧
    FactsUtil.sameHashes ["serviceprovider.ServiceProvider.ValidatePostSignature", "signature.ValidateRedirect", "signature.ValidatePost"] = true :=
  ⟨trivial, Consts.current_true, by decide +kernel⟩

/-- non-vacuity: with signing required a validly signed Redirect request is accepted, an unsigned one is not -/
def oraAccepting : Ora where
  now := 100
  timeParse := fun _ _ => none
  m_ValidateRedirectSignature := fun _ _ _ _ s => if s == "good" then none else some "bad signature"
  m_ValidatePostSignature := fun _ _ => some "no signature"
  urlParse := fun _ => none
  inflate := fun _ => {}
  m_GetResponseSigningKey := (none, none)
def acs1 : md_IndexedEndpointType := { Index := "1", Binding := postBinding, Location := "https://sp/acs" }
def spsso : md_SPSSODescriptorType := { AuthnRequestsSigned := "1", AssertionConsumerService := [acs1] }
def sp1 : serviceprovider_ServiceProvider := { ID := "app", Metadata := some { EntityID := "sp", SPSSODescriptor := some spsso } }
def idp1 : md_IDPSSODescriptorType := { WantAuthnRequestsSigned := "", SingleSignOnService := [] }
def req1 : samlp_AuthnRequestType := { Id := "id1", Version := "2.0", Issuer := some { Text := "sp" } }
def inSigned (sig : String) : In :=
  { idpMeta := some idp1, form := some { AuthRequest := "abc", Binding := redirectBinding, Sig := sig, SigAlg := if sig == "" then "" else "alg" },
    decoded := some req1, sp := some sp1, createOk := true, createdID := "ar-1" }
example : (sso oraAccepting (inSigned "good")).out = .login "ar-1" := by decide +kernel
example : (sso oraAccepting (inSigned "")).out = .failed 7 statusRequestDenied "" "" "" "id1" := by decide +kernel
example : (sso oraAccepting (inSigned "forged")).out = .failed 7 statusRequestDenied "" "" "" "id1" := by decide +kernel

end C05
