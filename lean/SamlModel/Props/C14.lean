import SamlModel.Generated.Funcs
import SamlModel.Props.Current
import SamlModel.Lemmas.GoSem
/-!
  C14 — Decompression of request payloads is bounded.
  Theorems about the *generated* `Gen.InflateAndDecode` (xml/xml.go): the inflater is an oracle
  (`o.inflate bytes` = the stream of bytes it would produce, of any length), `io.LimitReader` and
  `io.ReadAll` are modelled in `Lib.Stream`; `materialised` counts the bytes `ReadAll` buffers.
-/
namespace C14
open Go Gen Consts

/-- the cap the property asks for: of the order of net/http's 10 MB form limit -/
def cap : Nat := 10 * 1024 * 1024

theorem limitReader_materialised (r : Lib.Stream) (n : Int) : Lib.materialised (Lib.limitReader r n) ≤ n.toNat := by
  simp only [Lib.materialised, Lib.limitReader, List.length_take]; exact Nat.min_le_left _ _

/-- the payload bytes handed to the inflater -/
def payloadBytes (b64 : Bool) (msg : String) : Option Lib.Bytes :=
  if b64 then Lib.b64decode msg else some (Lib.stringToBytes msg)

/-- what the decoder does with the (limited) stream -/
def decodeSpec (st : Lib.Stream) : Lib.Bytes × Err :=
  if st.err then ([], some "read error")
  else if st.data.length > cap then ([], some "inflated message is larger than %d bytes")
  else (st.data, none)

/-- the limit the code passes to `io.LimitReader`: cap + 1 -/
def limit : Int := 10485761
theorem limit_eq : limit = (cap : Int) + 1 := by decide

/-- the read of the (limited) stream and the two checks that follow it, as generated -/
private theorem readLimited {σ : Type} (st : Lib.Stream) :
    (bif !(Lib.readAll st).snd.isNone then (Ctl.ret ([], (Lib.readAll st).snd) : Ctl σ (Lib.Bytes × Err))
     else bif decide (((Lib.readAll st).fst.length : Int) > (10485760 : Int)) then .ret ([], some "inflated message is larger than %d bytes")
     else .ret ((Lib.readAll st).fst, none)) = .ret (decodeSpec st) := by
  unfold decodeSpec Lib.readAll cap
  cases he : st.err
  · by_cases hl : st.data.length > 10485760
    · have : (10485760 : Int) < (st.data.length : Int) := by omega
      simp [hl, this]
    · have : ¬ (10485760 : Int) < (st.data.length : Int) := by omega
      simp [hl, this]
  · simp

theorem inflateAndDecode_eq (o : Ora) (enc : String) (b64 : Bool) (msg : String) :
    InflateAndDecode o enc b64 msg = .ok (
      match payloadBytes b64 msg with
      | none => ([], some "base64")
      | some data =>
        if enc = "" then (data, none)
        else if enc = encodingDeflate then decodeSpec (Lib.limitReader (o.inflate data) limit)
        else ([], some "unknown encoding")) := by
  cases b64 with
  | false =>
    simp only [InflateAndDecode, InflateAndDecode.body, gosem, payloadBytes, readLimited, limit, encodingDeflate, Bool.false_eq_true,
      if_false]
    simp only [Bool.cond_eq_ite, beq_iff_eq]
    by_cases h1 : enc = ""
    · simp [h1]
    · by_cases h2 : enc = "urn:oasis:names:tc:SAML:2.0:bindings:URL-Encoding:DEFLATE" <;> simp [h1, h2]
  | true =>
    rcases hd : Lib.b64decode msg with _ | data
    · simp only [InflateAndDecode, InflateAndDecode.body, gosem, payloadBytes, hd, if_true]
    · simp only [InflateAndDecode, InflateAndDecode.body, gosem, payloadBytes, hd, readLimited, limit, encodingDeflate, if_true]
      simp only [Bool.cond_eq_ite, beq_iff_eq]
      by_cases h1 : enc = ""
      · simp [h1]
      · by_cases h2 : enc = "urn:oasis:names:tc:SAML:2.0:bindings:URL-Encoding:DEFLATE" <;> simp [h1, h2]

/-- **the only read of the inflated stream goes through `LimitReader(cap + 1)`**: with the DEFLATE encoding the
    result is a function of the limited stream alone -/
theorem C14_reads_through_limit (o : Ora) (b64 : Bool) (msg : String) (data : Lib.Bytes) (h : payloadBytes b64 msg = some data) :
    InflateAndDecode o encodingDeflate b64 msg = .ok (decodeSpec (Lib.limitReader (o.inflate data) limit)) := by
  rw [inflateAndDecode_eq, h]; simp [encodingDeflate]

/-- **C14 (bounded).** Whatever the compression ratio, at most cap + 1 bytes are materialised. -/
theorem C14_bounded (o : Ora) (data : Lib.Bytes) :
    Lib.materialised (Lib.limitReader (o.inflate data) limit) ≤ cap + 1 := by
  have := limitReader_materialised (o.inflate data) limit
  simpa [limit, cap] using this

/-- **C14 (overflow is detected, not truncated).** A payload that inflates to more than the cap is an error —
    wherever the padding sits (the stream is opaque) — never a silently truncated message. -/
theorem C14_overflow_rejected (o : Ora) (b64 : Bool) (msg : String) (data : Lib.Bytes) (h : payloadBytes b64 msg = some data)
    (hbig : (o.inflate data).data.length > cap) :
    ∃ e, InflateAndDecode o encodingDeflate b64 msg = .ok ([], some e) := by
  rw [C14_reads_through_limit o b64 msg data h]
  unfold decodeSpec
  by_cases he : (Lib.limitReader (o.inflate data) limit).err = true
  · exact ⟨_, by rw [if_pos he]⟩
  · have hl : (Lib.limitReader (o.inflate data) limit).data.length > cap := by
      simp only [Lib.limitReader, List.length_take, limit, cap] at hbig ⊢; omega
    exact ⟨_, by rw [if_neg he, if_pos hl]⟩

/-- **no regression for well-behaved senders**: a complete stream within the cap is returned unchanged -/
theorem C14_small_unchanged (o : Ora) (b64 : Bool) (msg : String) (data : Lib.Bytes) (h : payloadBytes b64 msg = some data)
    (hsmall : (o.inflate data).data.length ≤ cap) (hok : (o.inflate data).err = false) :
    InflateAndDecode o encodingDeflate b64 msg = .ok ((o.inflate data).data, none) := by
  rw [C14_reads_through_limit o b64 msg data h]
  unfold decodeSpec
  have h1 : (Lib.limitReader (o.inflate data) limit).err = false := by simp [Lib.limitReader, hok]
  have h2 : (Lib.limitReader (o.inflate data) limit).data = (o.inflate data).data := by
    simp only [Lib.limitReader]; apply List.take_of_length_le; simp only [limit, cap] at hsmall ⊢; omega
  have h3 : ¬ (Lib.limitReader (o.inflate data) limit).data.length > cap := by rw [h2]; omega
  rw [if_neg (by simp [h1]), if_neg h3, h2]

/-- the absent encoding identifier is a pass-through and any other unknown identifier an error (shared with C18) -/
theorem C14_unknown_encoding (o : Ora) (enc : String) (b64 : Bool) (msg : String) (data : Lib.Bytes)
    (h : payloadBytes b64 msg = some data) (h1 : enc ≠ "") (h2 : enc ≠ encodingDeflate) :
    InflateAndDecode o enc b64 msg = .ok ([], some "unknown encoding") := by
  rw [inflateAndDecode_eq, h]; simp [h1, h2]

theorem C14_source_current : Consts.current = true := Consts.current_true

/-- non-vacuity: a 3-byte stream is returned; the hypotheses of the theorems are satisfiable -/
example : (Lib.limitReader { data := [1, 2, 3], err := false } limit).data = [1, 2, 3] := by decide

end C14
