import SamlModel.Props.CallbackGen
import SamlModel.Props.SsoChain
import SamlModel.Props.FnLemmas
/-!
  Props.SsoGen — `IdentityProvider.ssoHandleFunc` and `getAuthRequestFromRequest` are *translated* (go2lean, chain
  handler: see ChainSem / Props.LogoutGen).  The fifteen `checkerInstance.WithXxx` registrations are fifteen `Go.Step`s
  over the handler frame; `storage.CreateAuthRequest` is recorded in the effect trace with its arguments (its answer is an
  oracle); `verifyRedirectSignature` / `verifyPostSignature` hand the error back through their `func(error)` parameter,
  which go2lean returns as an extra result (`…_wb`).

  `sso_handler_refines`: for every behaviour of the environment that honours `EnvOK` the regenerated handler does exactly
  what the hand-written model `Sso.sso` (the model the C02 / C05 / C06 / C07 / C08 / C09 theorems are about) does on the
  input read off from the same oracle answers: same reply (HTTP 500, a failed Response with the same status code, delivery parameters and
  InResponseTo, or the 303 to the login URL of the identifier storage returned), same `CreateAuthRequest` call or none.

  The proof walks the chain once.  The model is its list of verdicts (`Sso.sso_eq_firstStop`); each step lemma says that
  one `Go.Step`, run on a frame of which `Known` holds, does what one verdict says (`Does`: passes and leaves `Known` of
  the next frame, or ends the request observably as the verdict's result); `follows_cons` chains them.
-/
namespace SsoGen
open Go Gen Consts CallbackGen Builders

variable (o : Ora) (cfg : provider_IdentityProviderConfig) (fmt : String) (exp : Int)

def theForm : provider_AuthRequestForm :=
  { AuthRequest := o.formValue "SAMLRequest",
    Encoding := if o.formValue "SAMLEncoding" == "" && o.urlQueryHas "SAMLRequest" then encodingDeflate else o.formValue "SAMLEncoding",
    RelayState := o.formValue "RelayState", SigAlg := o.formValue "SigAlg", Sig := o.formValue "Signature",
    Binding := if o.urlQueryHas "SAMLRequest" then redirectBinding else postBinding }

theorem getForm_eq : getAuthRequestFromRequest o =
    match o.m_ParseForm with
    | some e => .ok (none, some ("failed to parse form: " ++ e))
    | none => .ok (some (theForm o), none) := by
  unfold getAuthRequestFromRequest getAuthRequestFromRequest.body theForm
  cases h : o.m_ParseForm with
  | some e => simp
  | none =>
    by_cases hq : o.urlQueryHas "SAMLRequest" = true <;> by_cases he : o.formValue "SAMLEncoding" = "" <;>
      simp [hq, he, encodingDeflate, redirectBinding, postBinding]

def formOf (f : provider_AuthRequestForm) : Sso.Form :=
  { AuthRequest := f.AuthRequest, Encoding := f.Encoding, RelayState := f.RelayState, SigAlg := f.SigAlg, Sig := f.Sig, Binding := f.Binding }

/-! ### The model's input, read off from the oracle answers -/

def decodedOf : Option samlp_AuthnRequestType :=
  if o.m_ParseForm.isSome then none else
  if (o.f_DecodeAuthNRequest (theForm o).Encoding (theForm o).AuthRequest).2.isNone then
    (o.f_DecodeAuthNRequest (theForm o).Encoding (theForm o).AuthRequest).1 else none

def spOf : Option serviceprovider_ServiceProvider :=
  match decodedOf o with
  | none => none
  | some req =>
    match req.Issuer with
    | none => none
    | some iss => if (o.m_GetServiceProvider (idp cfg fmt exp) iss.Text).2.isNone then (o.m_GetServiceProvider (idp cfg fmt exp) iss.Text).1 else none

/-- the consumer endpoint the handler selects -/
def selOf : String × String :=
  match decodedOf o, spOf o cfg fmt exp with
  | some req, some sp =>
    match Sso.spAcs sp with
    | some l => (GetAcsUrlAndBindingForResponse o l req.ProtocolBinding).get
    | none => ("", "")
  | _, _ => ("", "")

/-- the answer of `storage.CreateAuthRequest` to the call the handler makes -/
def createOf : Unit × Err :=
  o.m_CreateAuthRequest (decodedOf o) (selOf o cfg fmt exp).1 (selOf o cfg fmt exp).2 (theForm o).RelayState
    ((spOf o cfg fmt exp).map (·.ID)).get!

def inOfOra : Sso.In :=
  { metaErr := (o.m_GetMetadata (idp cfg fmt exp)).2.2.isSome,
    idpMeta := (o.m_GetMetadata (idp cfg fmt exp)).1,
    form := if o.m_ParseForm.isSome then none else some (formOf (theForm o)),
    decoded := decodedOf o,
    sp := spOf o cfg fmt exp,
    createOk := (createOf o cfg fmt exp).2.isNone,
    createdID := o.m_GetID }

theorem metaErr_eq : (inOfOra o cfg fmt exp).metaErr = (o.m_GetMetadata (idp cfg fmt exp)).2.2.isSome := rfl

/-! ### What is observable -/

inductive Obs where
  | httpError (code : Nat)
  | panic
  | failed (status acs binding relay inResponseTo : String)
  | login (url : String)
deriving DecidableEq

structure ObsR where
  out : Obs
  persist : Option Sso.Persist := none

/-- the model's result, observably: the number of the failing step is not visible to a client -/
def obsOfModel (r : Sso.Result) : ObsR :=
  { out := match r.out with
      | .httpError c => .httpError c
      | .panic => .panic
      | .failed _ st a b rl irt => .failed st a b rl irt
      | .login id => .login (o.m_LoginURL (spOf o cfg fmt exp) id),
    persist := r.persist }

/-- what one write means for the client (an effect this handler does not perform is mapped to a value the model never
    produces, HTTP status 0: the refinement theorem thereby excludes it) -/
def obsOfEff : Eff → Obs
  | .httpError _ code => .httpError code.toNat
  | .sendBackResponse (some resp) (some m) => .failed m.Status.StatusCode.Value resp.AcsUrl resp.ProtocolBinding resp.RelayState resp.RequestID
  | .httpRedirect url 303 => .login url
  | _ => .httpError 0

/-- a run of the handler, observably: one write, possibly after the one `CreateAuthRequest` call -/
def obsOf : Res (List Eff) → Option ObsR
  | .panic => some { out := .panic }
  | .ok [.callCreateAuthRequest req acs b relay app, e] =>
    some { out := obsOfEff e,
           persist := some { acs := acs, binding := b, relay := relay, appID := app, reqID := (req.map (·.Id)).getD "",
                             ok := match e with | .httpRedirect _ _ => true | _ => false } }
  | .ok [e] => some { out := obsOfEff e }
  | .ok _ => none

/-- contract of the environment: a decoder / storage call that reports no error hands back a value, and registered
    service providers carry their metadata (NewServiceProvider builds no other) -/
def EnvOK : Prop :=
  (∀ enc req, (o.f_DecodeAuthNRequest enc req).2 = none → (o.f_DecodeAuthNRequest enc req).1.isSome) ∧
  (∀ iss, (o.m_GetServiceProvider (idp cfg fmt exp) iss).2 = none →
    ∃ sp, (o.m_GetServiceProvider (idp cfg fmt exp) iss).1 = some sp ∧ sp.Metadata.isSome)

open IdentityProvider_ssoHandleFunc

theorem deref_some {α} [Inhabited α] (x : α) : deref (some x) = x := Go.deref_some x
theorem isPanic_ok {α} (a : α) : (Res.ok a).isPanic = false := Res.isPanic_ok a
theorem isPanic_panic {α} : (Res.panic : Res α).isPanic = true := Res.isPanic_panic
theorem get_ok {α} [Inhabited α] (a : α) : (Res.ok a).get = a := Res.get_ok a

@[gosem]
theorem mfr_isPanic (resp : provider_Response) (st msg : String) :
    (Response_makeFailedResponse o (some resp) st msg fmt).isPanic = false := by
  rw [makeFailedResponse_eq]; rfl

/-- the failed Response a callback of this handler writes -/
def failEff (resp : provider_Response) (status msg : String) : Eff :=
  .sendBackResponse (some resp) (Response_makeFailedResponse o (some resp) status msg fmt).get

theorem obs_failEff (resp : provider_Response) (status msg : String) :
    obsOfEff (failEff o fmt resp status msg) = .failed status resp.AcsUrl resp.ProtocolBinding resp.RelayState resp.RequestID := by
  rw [failEff, makeFailedResponse_eq]; rfl

/-- what the handler frame holds between the steps of the chain -/
structure Known (f : Option provider_AuthRequestForm) (req : Option samlp_AuthnRequestType)
    (sp : Option serviceprovider_ServiceProvider) (resp : provider_Response) (s : Frame) : Prop where
  hp : s.p = idp cfg fmt exp
  heff : s.eff_ = []
  hmeta : s.metadata = (o.m_GetMetadata (idp cfg fmt exp)).1
  hform : s.authRequestForm = f
  hreq : s.authNRequest = req
  hsp : s.sp = sp
  hresp : s.response = some resp

/-- `Known` does not mention `err`, which the signature steps may set (`Known.errSet`) -/
theorem Known.setErr {f req sp resp} {s : Frame} (k : Known o cfg fmt exp f req sp resp s) (e : Err) :
    Known o cfg fmt exp f req sp resp { s with err := e } :=
  ⟨k.hp, k.heff, k.hmeta, k.hform, k.hreq, k.hsp, k.hresp⟩

/-- the response the chain starts with -/
def resp0 : provider_Response := { (default : provider_Response) with Issuer := o.m_GetEntityID (idp cfg fmt exp) }

theorem resp0_eq : resp0 o cfg fmt exp =
    { ProtocolBinding := "", RelayState := "", AcsUrl := "", Signature := "", SigAlg := "", RequestID := "",
      Issuer := o.m_GetEntityID (idp cfg fmt exp), Audience := "", SendIP := "" } := rfl

/-- the frame in which the chain starts -/
def s0 : Frame :=
  { p := idp cfg fmt exp, response := some (resp0 o cfg fmt exp), metadata := (o.m_GetMetadata (idp cfg fmt exp)).1 }

abbrev H := IdentityProvider_ssoHandleFunc

/-- what the handler does after the chain -/
def epilogue (s : Frame) : Res (List Eff) :=
  match s.response with
  | none => .panic
  | some resp =>
    if resp.ProtocolBinding = redirectBinding ∨ resp.ProtocolBinding = postBinding then
      .ok (s.eff_ ++ [Eff.httpRedirect (o.m_LoginURL s.sp o.m_GetID) 303])
    else
      match s.p with
      | none => .panic
      | some p => .ok (s.eff_ ++ [failEff o p.TimeFormat resp statusUnsupportedBinding ("unsupported binding: " ++ resp.ProtocolBinding)])

theorem handler_of_chain (h : (o.m_GetMetadata (idp cfg fmt exp)).2.2 = none) :
    H o (idp cfg fmt exp) =
      match runDirect (chain o) (s0 o cfg fmt exp) with
      | .panic => .panic
      | .ok (true, s) => .ok s.eff_
      | .ok (false, s) => epilogue o s := by
  simp only [idp] at h
  simp only [H, IdentityProvider_ssoHandleFunc, body, runChain_eq_runDirect, gosem, h, idp, s0, resp0]
  cases runDirect (chain o) _ with
  | panic => rfl
  | ok p =>
    obtain ⟨b, s⟩ := p
    cases b with
    | true => rfl
    | false =>
      have e1 : "urn:oasis:names:tc:SAML:2.0:bindings:HTTP-Redirect" = redirectBinding := rfl
      have e2 : "urn:oasis:names:tc:SAML:2.0:bindings:HTTP-POST" = postBinding := rfl
      simp only [gosem, epilogue, failEff, e1, e2, statusUnsupportedBinding]
      cases s.response with
      | none => rfl
      | some resp =>
        -- decide the condition here: left to `simp`, the `if` of `epilogue` makes it evaluate string comparisons
        cases hb : resp.ProtocolBinding == redirectBinding || resp.ProtocolBinding == postBinding <;>
          simp only [gosem, hb]
        · rw [if_neg (by simpa using hb)]
          cases s.p <;> simp only [gosem]
        · rw [if_pos (by simpa using hb)]

abbrev goal : Prop :=
  obsOf (H o (idp cfg fmt exp)) = some (obsOfModel o cfg fmt exp (Sso.sso o (inOfOra o cfg fmt exp)))

/-! ### The `func(error)` variants -/

/-- a `func(error)` variant returns what the plain function returns, beside what it handed to the callback -/
theorem verifyRedirect_wb (a r sg al : String) (sp : Option serviceprovider_ServiceProvider) :
    (verifyRedirectSignature_wb o a r sg al sp).isPanic = (verifyRedirectSignature o a r sg al sp).isPanic ∧
    (verifyRedirectSignature_wb o a r sg al sp).get.1 = (verifyRedirectSignature o a r sg al sp).get := by
  rw [FnLemmas.verifyRedirect_eq]
  simp only [verifyRedirectSignature_wb, verifyRedirectSignature_wb.body, gosem]
  simp only [Bool.cond_eq_ite]
  by_cases h1 : a = "" <;> by_cases h2 : sg = "" <;> by_cases h3 : al = "" <;> simp [h1, h2, h3]

theorem verifyPost_wb (a : String) (sp : Option serviceprovider_ServiceProvider) :
    (verifyPostSignature_wb o a sp).isPanic = (verifyPostSignature o a sp).isPanic ∧
    (verifyPostSignature_wb o a sp).get.1 = (verifyPostSignature o a sp).get := by
  rw [FnLemmas.verifyPost_eq]
  simp only [verifyPostSignature_wb, verifyPostSignature_wb.body, gosem]
  simp only [Bool.cond_eq_ite]
  cases Lib.b64decode a with
  | none => simp
  | some d => cases h : o.m_ValidatePostSignature sp (Lib.bytesToString d) <;> simp [h]

/-- what the handler has written when the chain ends this way (the three cases of `handler_of_chain`) -/
def endOf : Res (Bool × Frame) → Res (List Eff)
  | .panic => .panic
  | .ok (true, s) => .ok s.eff_
  | .ok (false, s) => epilogue o s

/-- what a client sees of a run of the chain and of what the handler does after it -/
abbrev obsRun (x : Res (Bool × Frame)) : Option ObsR := obsOf (endOf o x)

abbrev Stops (x : Res (Bool × Frame)) (r : Sso.Result) : Prop := Go.Stops (obsRun o) (obsOfModel o cfg fmt exp) x r

abbrev Does (st : Step Frame) (s : Frame) (K : Frame → Prop) (v : Verdict Sso.Result) : Prop :=
  Go.Does (obsRun o) (obsOfModel o cfg fmt exp) st s K v

variable {o cfg fmt exp}

theorem stops_panic : Stops o cfg fmt exp .panic Sso.panicked := Go.stops_panic rfl

/-- the reply of a failing step, for the delivery parameters the response carries at that point -/
def failR (n : Nat) (status : String) (resp : provider_Response) : Sso.Result :=
  { out := .failed n status resp.AcsUrl resp.ProtocolBinding resp.RelayState resp.RequestID }

/-- a step failed: its callback wrote the failed Response with this status code for the delivery parameters `resp` -/
theorem stops_fails {s' : Frame} {resp : provider_Response} {status msg : String} (n : Nat)
    (he : s'.eff_ = [failEff o fmt resp status msg]) :
    Stops o cfg fmt exp (.ok (true, s')) (failR n status resp) :=
  ⟨fun _ => nofun, by simp only [obsRun, endOf, he, obsOf, obs_failEff, obsOfModel, failR]⟩

section steps
variable {f : provider_AuthRequestForm} {req : samlp_AuthnRequestType} {sp : serviceprovider_ServiceProvider}
  {resp : provider_Response} {s : Frame}

/-- step 1 (the form) -/
theorem step1 (k : Known o cfg fmt exp none none none (resp0 o cfg fmt exp) s) :
    Does o cfg fmt exp (.withLogicStep (clo0 o) (clo1 o)) s
      (Known o cfg fmt exp (some (theForm o)) none none
        { resp0 o cfg fmt exp with SigAlg := (theForm o).SigAlg, RelayState := (theForm o).RelayState })
      (stopIf o.m_ParseForm.isSome (failR 1 statusRequestDenied (resp0 o cfg fmt exp))) := by
  cases h : o.m_ParseForm with
  | some e =>
    simp only [clo0, clo1, getForm_eq, h, gosem, k.hp, k.hresp, k.heff]
    exact stops_fails 1 rfl
  | none =>
    simp only [clo0, getForm_eq, h, gosem, k.hresp]
    exact ⟨_, rfl, k.hp, k.heff, k.hmeta, rfl, k.hreq, k.hsp, rfl⟩

/-- step 2 (the request is not empty) -/
theorem step2 (k : Known o cfg fmt exp (some f) none none resp s) :
    Does o cfg fmt exp (.withValueNotEmptyCheck (clo2 o) (clo3 o)) s (Known o cfg fmt exp (some f) none none resp)
      (stopIf (f.AuthRequest == "") (failR 2 statusRequestDenied resp)) := by
  cases hc : f.AuthRequest == "" <;>
    simp only [clo2, clo3, gosem, k.hform, hc, k.hp, k.hresp, k.heff]
  · exact ⟨_, rfl, k⟩
  · exact stops_fails 2 rfl

/-- step 3 (a signature algorithm needs a signature) -/
theorem step3 (k : Known o cfg fmt exp (some f) none none resp s) :
    Does o cfg fmt exp (.withConditionalValueNotEmpty (clo4 o) (clo5 o) (clo6 o)) s (Known o cfg fmt exp (some f) none none resp)
      (stopIf (f.SigAlg != "" && f.Sig == "") (failR 3 statusRequestDenied resp)) := by
  cases h1 : f.SigAlg != "" <;> cases h2 : f.Sig == "" <;>
    simp only [clo4, clo5, clo6, gosem, k.hform, h1, h2, k.hp, k.hresp, k.heff]
  case true.true => exact stops_fails 3 rfl
  all_goals exact ⟨_, rfl, k⟩

/-- step 4 (decoding) -/
theorem step4 (henv : EnvOK o cfg fmt exp) (k : Known o cfg fmt exp (some f) none none resp s) :
    Does o cfg fmt exp (.withLogicStep (clo7 o) (clo8 o)) s
      (fun s' => ∃ req, o.f_DecodeAuthNRequest f.Encoding f.AuthRequest = (some req, none) ∧
        Known o cfg fmt exp (some f) (some req) none { resp with RequestID := req.Id } s')
      (stopIf (o.f_DecodeAuthNRequest f.Encoding f.AuthRequest).2.isSome (failR 4 statusRequestDenied resp)) := by
  rcases hd : o.f_DecodeAuthNRequest f.Encoding f.AuthRequest with ⟨dq, _ | e⟩
  · obtain ⟨req, rfl⟩ := value_of_noErr (henv.1 _ _) hd
    simp only [clo7, gosem, k.hform, hd, k.hresp]
    exact ⟨_, rfl, req, rfl, k.hp, k.heff, k.hmeta, rfl, rfl, k.hsp, rfl⟩
  · simp only [clo7, clo8, gosem, k.hform, hd, k.hp, k.hresp, k.heff]
    exact stops_fails 4 rfl

/-- step 5 (the sender): the Issuer element, the storage lookup, and the registered metadata `EnvOK` promises -/
theorem step5 (henv : EnvOK o cfg fmt exp) (k : Known o cfg fmt exp (some f) (some req) none resp s) :
    Does o cfg fmt exp (.withLogicStep (clo9 o) (clo10 o)) s
      (fun s' => ∃ iss sp m, req.Issuer = some iss ∧ o.m_GetServiceProvider (idp cfg fmt exp) iss.Text = (some sp, none) ∧
        sp.Metadata = some m ∧ Known o cfg fmt exp (some f) (some req) (some sp) { resp with Audience := m.EntityID } s')
      (stopIf (match req.Issuer with
          | none => true
          | some iss => (o.m_GetServiceProvider (idp cfg fmt exp) iss.Text).2.isSome) (failR 5 statusRequestDenied resp)) := by
  cases hi : req.Issuer with
  | none =>
    simp only [clo9, clo10, gosem, k.hreq, hi, k.hp, k.hresp, k.heff]
    exact stops_fails 5 rfl
  | some iss =>
    rcases hs : o.m_GetServiceProvider (idp cfg fmt exp) iss.Text with ⟨spo, _ | e⟩
    · obtain ⟨sp, rfl, hm⟩ : ∃ sp, spo = some sp ∧ sp.Metadata.isSome := by simpa only [hs] using henv.2 iss.Text (by rw [hs])
      obtain ⟨m, hm⟩ := Option.isSome_iff_exists.mp hm
      simp only [clo9, gosem, k.hreq, hi, k.hp, hs, k.hresp, FnLemmas.getEntityID_eq, hm]
      exact ⟨_, rfl, iss, sp, m, rfl, hs, hm, rfl, k.heff, k.hmeta, k.hform, rfl, rfl, rfl⟩
    · simp only [clo9, clo10, gosem, k.hreq, hi, k.hp, hs, k.hresp, k.heff]
      exact stops_fails 5 rfl

/-- step 6 (KeyInfo certificate) -/
theorem step6 (k : Known o cfg fmt exp (some f) (some req) (some sp) resp s) :
    Does o cfg fmt exp (.withConditionalLogicStep (clo11 o) (clo12 o) (clo13 o)) s
      (Known o cfg fmt exp (some f) (some req) (some sp) resp)
      (stopOnErr Sso.panicked (Sso.condStep (certificateCheckNecessary o req.Signature sp.Metadata)
        (checkCertificate o req.Signature sp.Metadata)) (failR 6 statusRequestDenied resp)) := by
  rw [Sso.stopOnErr_condStep]
  refine does_condLogic rfl ?_ (fun _ => k) ?_ (fun _ => k) fun _ _ => ?_
  · simp only [clo11, gosem, k.hreq, k.hsp]
  · simp only [clo12, gosem, k.hreq, k.hsp]
  · simp only [clo13, gosem, k.hp, k.hresp, k.heff]; exact stops_fails 6 rfl

/-- what a `func(error)` variant handed to its callback, if anything, is stored in `err` -/
theorem Known.errSet {f req sp} (k : Known o cfg fmt exp f req sp resp s) (w : Option Err) :
    Known o cfg fmt exp f req sp resp (match w with | some e_ => { s with err := e_ } | none => s) := by
  cases w with
  | none => exact k
  | some e_ => exact Known.setErr o cfg fmt exp k e_

/-- steps 7 and 8: a conditional logic step whose logic is the `func(error)` variant `W` of the call `L` (`hW` is what
    `verifyRedirect_wb` and `verifyPost_wb` state).  Running `l` leaves `hl` with the generated code's own compiled `match` on
    the left, which `simp` does not identify with the one here; `rfl` does. -/
theorem does_wb {cnd : Clo Frame Bool} {l : Clo Frame Err} {e : Clo Frame Unit} {C : Res Bool} {L : Res Err}
    {W : Res (Err × Option Err)} {r : Sso.Result} (hW : W.isPanic = L.isPanic ∧ W.get.1 = L.get)
    (k : Known o cfg fmt exp (some f) (some req) (some sp) resp s) (hc : cnd s = C.inFrame s)
    (hl : l s = bif W.isPanic then .panic else
      .ok (W.get.1, match W.get.2 with | some e_ => { s with err := e_ } | none => s))
    (hfail : ∀ s', Known o cfg fmt exp (some f) (some req) (some sp) resp s' → Stops o cfg fmt exp (failWith e s') r) :
    Does o cfg fmt exp (.withConditionalLogicStep cnd l e) s (Known o cfg fmt exp (some f) (some req) (some sp) resp)
      (stopOnErr Sso.panicked (Sso.condStep C L) r) := by
  rw [Sso.stopOnErr_condStep]
  rw [hW.1, hW.2] at hl
  exact does_condLogic rfl hc (fun _ => k) hl (fun _ => k.errSet _) fun _ _ => hfail _ (k.errSet _)

/-- step 7 (redirect-binding signature) -/
theorem step7 (k : Known o cfg fmt exp (some f) (some req) (some sp) resp s) :
    Does o cfg fmt exp (.withConditionalLogicStep (clo14 o) (clo15 o) (clo16 o)) s
      (Known o cfg fmt exp (some f) (some req) (some sp) resp)
      (stopOnErr Sso.panicked (Sso.condStep
        (signatureRedirectVerificationNecessary o (o.m_GetMetadata (idp cfg fmt exp)).1 sp.Metadata f.Sig f.Binding)
        (verifyRedirectSignature o f.AuthRequest f.RelayState f.Sig f.SigAlg (some sp))) (failR 7 statusRequestDenied resp)) := by
  refine does_wb (verifyRedirect_wb o f.AuthRequest f.RelayState f.Sig f.SigAlg (some sp)) k ?_ ?_ fun s' k' => ?_
  · simp only [clo14, gosem, k.hform, k.hsp, k.hmeta]
  · simp only [clo15, gosem, k.hform, k.hsp]; rfl
  · simp only [clo16, gosem, k'.hp, k'.hresp, k'.heff]; exact stops_fails 7 rfl

/-- step 8 (POST-binding signature) -/
theorem step8 (k : Known o cfg fmt exp (some f) (some req) (some sp) resp s) :
    Does o cfg fmt exp (.withConditionalLogicStep (clo17 o) (clo18 o) (clo19 o)) s
      (Known o cfg fmt exp (some f) (some req) (some sp) resp)
      (stopOnErr Sso.panicked (Sso.condStep
        (signaturePostVerificationNecessary o (o.m_GetMetadata (idp cfg fmt exp)).1 sp.Metadata req.Signature f.Binding)
        (verifyPostSignature o f.AuthRequest (some sp))) (failR 8 statusRequestDenied resp)) := by
  refine does_wb (verifyPost_wb o f.AuthRequest (some sp)) k ?_ ?_ fun s' k' => ?_
  · simp only [clo17, gosem, k.hform, k.hreq, k.hsp, k.hmeta]
  · simp only [clo18, gosem, k.hform, k.hsp]; rfl
  · simp only [clo19, gosem, k'.hp, k'.hresp, k'.heff]; exact stops_fails 8 rfl

/-- step 9 (a signature has to be carried the way the binding defines it) -/
theorem step9 (k : Known o cfg fmt exp (some f) (some req) (some sp) resp s) :
    Does o cfg fmt exp (.withLogicStep (clo20 o) (clo21 o)) s (Known o cfg fmt exp (some f) (some req) (some sp) resp)
      (bindV Sso.panicked (signaturePostProvided o req.Signature) fun emb =>
        stopIf ((f.Binding == postBinding && f.Sig != "") || (f.Binding == redirectBinding && emb))
          (failR 9 statusRequestDenied resp)) := by
  cases h1 : f.Binding == postBinding && f.Sig != "" <;>
    cases h2 : f.Binding == redirectBinding && FnLemmas.embProvided req.Signature <;>
    -- the generated closures compare with the literals, not with the constants
    simp only [postBinding, redirectBinding] at h1 h2 <;>
    simp only [clo20, clo21, gosem, FnLemmas.signaturePostProvided_eq, redirectBinding, k.hform, k.hreq, h1, h2, k.hp, k.hresp, k.heff]
  case false.false => exact ⟨_, rfl, k⟩
  all_goals exact stops_fails 9 rfl

/-- step 10 (consumer endpoint selection) -/
theorem step10 (k : Known o cfg fmt exp (some f) (some req) (some sp) resp s) :
    Does o cfg fmt exp (.withValueStep (clo22 o)) s
      (fun s' => ∃ l sel, Sso.spAcs sp = some l ∧ GetAcsUrlAndBindingForResponse o l req.ProtocolBinding = .ok sel ∧
        Known o cfg fmt exp (some f) (some req) (some sp) { resp with AcsUrl := sel.1, ProtocolBinding := sel.2 } s')
      (match Sso.spAcs sp with
        | none => .stop Sso.panicked
        | some l => bindV Sso.panicked (GetAcsUrlAndBindingForResponse o l req.ProtocolBinding) fun _ => .pass) := by
  unfold Sso.spAcs
  cases hm : sp.Metadata with
  | none => simp only [clo22, gosem, k.hsp, hm]; exact stops_panic
  | some m =>
    cases hd : m.SPSSODescriptor with
    | none => simp only [clo22, gosem, k.hsp, hm, hd]; exact stops_panic
    | some d =>
      cases hg : GetAcsUrlAndBindingForResponse o d.AssertionConsumerService req.ProtocolBinding with
      | panic => simp only [clo22, gosem, k.hsp, k.hreq, hm, hd, hg]; exact stops_panic
      | ok sel =>
        simp only [clo22, gosem, k.hsp, k.hreq, hm, hd, hg, k.hresp]
        exact ⟨_, rfl, _, sel, rfl, hg, k.hp, k.heff, k.hmeta, k.hform, rfl, rfl, rfl⟩

/-- steps 11 and 12 (a consumer URL and a binding were found) -/
theorem step11 (k : Known o cfg fmt exp (some f) (some req) (some sp) resp s) :
    Does o cfg fmt exp (.withValueNotEmptyCheck (clo23 o) (clo24 o)) s (Known o cfg fmt exp (some f) (some req) (some sp) resp)
      (stopIf (resp.AcsUrl == "") (failR 11 statusUnsupportedBinding resp)) := by
  cases hc : resp.AcsUrl == "" <;>
    simp only [clo23, clo24, gosem, hc, k.hp, k.hresp, k.heff]
  · exact ⟨_, rfl, k⟩
  · exact stops_fails 11 rfl

theorem step12 (k : Known o cfg fmt exp (some f) (some req) (some sp) resp s) :
    Does o cfg fmt exp (.withValueNotEmptyCheck (clo25 o) (clo26 o)) s (Known o cfg fmt exp (some f) (some req) (some sp) resp)
      (stopIf (resp.ProtocolBinding == "") (failR 12 statusUnsupportedBinding resp)) := by
  cases hc : resp.ProtocolBinding == "" <;>
    simp only [clo25, clo26, gosem, hc, k.hp, k.hresp, k.heff]
  · exact ⟨_, rfl, k⟩
  · exact stops_fails 12 rfl

/-- step 13 (the selected binding can be answered) -/
theorem step13 (k : Known o cfg fmt exp (some f) (some req) (some sp) resp s) :
    Does o cfg fmt exp (.withLogicStep (clo27 o) (clo28 o)) s (Known o cfg fmt exp (some f) (some req) (some sp) resp)
      (stopIf (!(resp.ProtocolBinding == redirectBinding || resp.ProtocolBinding == postBinding))
        (failR 13 statusUnsupportedBinding resp)) := by
  cases hc : resp.ProtocolBinding == redirectBinding || resp.ProtocolBinding == postBinding <;>
    -- the generated closures compare with the literals, not with the constants
    simp only [postBinding, redirectBinding] at hc <;>
    simp only [clo27, clo28, gosem, hc, k.hp, k.hresp, k.heff]
  · exact stops_fails 13 rfl
  · exact ⟨_, rfl, k⟩

/-- step 14 (required content) -/
theorem step14 (k : Known o cfg fmt exp (some f) (some req) (some sp) resp s) :
    Does o cfg fmt exp (.withLogicStep (clo29 o) (clo30 o)) s (Known o cfg fmt exp (some f) (some req) (some sp) resp)
      (stopOnErr Sso.panicked (checkRequestRequiredContent o (o.m_GetMetadata (idp cfg fmt exp)).1 (some sp) (some req))
        (failR 14 statusRequestDenied resp)) := by
  refine does_logic rfl ?_ (fun _ => k) fun _ _ => ?_
  · simp only [clo29, gosem, k.hmeta, k.hsp, k.hreq]
  · simp only [clo30, gosem, k.hp, k.hresp, k.heff]; exact stops_fails 14 rfl

/-- step 15 (persist): the one storage write, then - on failure - the Responder reply -/
theorem step15 (k : Known o cfg fmt exp (some f) (some req) (some sp) resp s) :
    Does o cfg fmt exp (.withLogicStep (clo31 o) (clo32 o)) s
      (fun s' => s'.eff_ = [Eff.callCreateAuthRequest (some req) resp.AcsUrl resp.ProtocolBinding f.RelayState sp.ID] ∧
        s'.p = idp cfg fmt exp ∧ s'.sp = some sp ∧ s'.response = some resp)
      (stopIf (!(o.m_CreateAuthRequest (some req) resp.AcsUrl resp.ProtocolBinding f.RelayState sp.ID).2.isNone)
        { failR 15 statusResponder resp with
          persist := some { acs := resp.AcsUrl, binding := resp.ProtocolBinding, relay := f.RelayState, appID := sp.ID,
                            reqID := req.Id, ok := false } }) := by
  rcases hc : o.m_CreateAuthRequest (some req) resp.AcsUrl resp.ProtocolBinding f.RelayState sp.ID with ⟨u, _ | e⟩ <;>
    simp only [clo31, clo32, gosem, k.hform, k.hreq, k.hsp, k.hresp, hc, k.hp, k.heff]
  · exact ⟨_, rfl, rfl, rfl, rfl, rfl⟩
  · refine ⟨fun _ => nofun, ?_⟩
    show obsOf (.ok [Eff.callCreateAuthRequest _ _ _ _ _, failEff o fmt resp statusResponder _]) = _
    simp only [obsOf, obs_failEff, obsOfModel, failR, Option.map_some, Option.getD_some]
    rfl

end steps

/-- under `EnvOK` the decoder's error alone says whether the model sees a decoded request -/
theorem decodedOf_isNone (henv : EnvOK o cfg fmt exp) (hpf : o.m_ParseForm = none) :
    (decodedOf o).isNone = (o.f_DecodeAuthNRequest (theForm o).Encoding (theForm o).AuthRequest).2.isSome := by
  unfold decodedOf
  rw [hpf]
  exact valueOf_isNone (henv.1 _ _)

/-- … and the storage's error alone whether it sees a registered service provider -/
theorem spOf_isNone (henv : EnvOK o cfg fmt exp) {req : samlp_AuthnRequestType} (hd : decodedOf o = some req) :
    (req.Issuer.isNone || (spOf o cfg fmt exp).isNone) =
      match req.Issuer with
      | none => true
      | some iss => (o.m_GetServiceProvider (idp cfg fmt exp) iss.Text).2.isSome := by
  unfold spOf
  simp only [hd]
  cases req.Issuer with
  | none => rfl
  | some iss => exact valueOf_isNone fun h => (henv.2 iss.Text h).elim fun sp hsp => by simp [hsp.1]

variable (o cfg fmt exp)

/-- **the regenerated SSO handler refines the SSO model.**  For every behaviour of the environment that honours `EnvOK`,
    `ssoHandleFunc` as regenerated from sso.go on this run does, observably, exactly what `Sso.sso` does on the input read
    off from the same oracle answers: it panics where the model panics, answers HTTP 500 when the IdP metadata cannot be
    read, writes the failed Response with the model's status code for the model's delivery parameters (consumer URL,
    binding, RelayState) and InResponseTo, or redirects (303) to the login URL of the identifier `CreateAuthRequest`
    returned; and it calls `CreateAuthRequest` exactly when, and with exactly the arguments, the model persists. -/
theorem sso_handler_refines (henv : EnvOK o cfg fmt exp) : goal o cfg fmt exp := by
  unfold goal
  rw [Sso.sso_eq_firstStop]
  cases h : (o.m_GetMetadata (idp cfg fmt exp)).2.2 with
  | some e =>
    simp only [idp] at h
    simp only [Sso.verdicts, metaErr_eq, idp, h, Option.isSome_some, H, IdentityProvider_ssoHandleFunc, body, gosem]
    rfl
  | none =>
    rw [handler_of_chain o cfg fmt exp h, Sso.verdicts, firstStop_stopIf, metaErr_eq, h, Option.isSome_none, cond_false]
    have hform : (inOfOra o cfg fmt exp).form = if o.m_ParseForm.isSome then none else some (formOf (theForm o)) := rfl
    have hdec : (inOfOra o cfg fmt exp).decoded = decodedOf o := rfl
    have hsp : (inOfOra o cfg fmt exp).sp = spOf o cfg fmt exp := rfl
    have hidp : (inOfOra o cfg fmt exp).idpMeta = (o.m_GetMetadata (idp cfg fmt exp)).1 := rfl
    have hcreate : (inOfOra o cfg fmt exp).createOk = (createOf o cfg fmt exp).2.isNone := rfl
    have hcid : (inOfOra o cfg fmt exp).createdID = o.m_GetID := rfl
    simp only [Sso.chainVerdicts, Sso.failed, hidp]
    refine follows_cons' (step1 (s := s0 o cfg fmt exp) ⟨rfl, rfl, rfl, rfl, rfl, rfl, rfl⟩) (by rw [hform]; cases o.m_ParseForm <;> rfl)
      fun hv s1 k1 => ?_
    have hpf : o.m_ParseForm = none := by simpa using stopIf_pass hv
    have hF : Sso.formV (inOfOra o cfg fmt exp) = formOf (theForm o) := by simp [Sso.formV, hform, hpf]
    simp only [hF, formOf]
    refine follows_cons (step2 k1) fun _ s2 k2 => ?_
    refine follows_cons (step3 k2) fun _ s3 k3 => ?_
    refine follows_cons' (step4 henv k3) (by rw [hdec, decodedOf_isNone henv hpf]; rfl)
      fun _ s4 ⟨req, hd, k4⟩ => ?_
    have hdo : decodedOf o = some req := by simp [decodedOf, hpf, hd]
    have hR : Sso.reqV (inOfOra o cfg fmt exp) = req := by simp [Sso.reqV, hdec, hdo]
    simp only [hR]
    refine follows_cons' (step5 henv k4) (by rw [hsp, spOf_isNone henv hdo]; rfl)
      fun _ s5 ⟨iss, sp, m, hiss, hgs, hm, k5⟩ => ?_
    have hso : spOf o cfg fmt exp = some sp := by simp [spOf, hdo, hiss, hgs]
    have hS : Sso.spV (inOfOra o cfg fmt exp) = sp := by simp [Sso.spV, hsp, hso]
    simp only [hS]
    refine follows_cons (step6 k5) fun _ s6 k6 => ?_
    refine follows_cons (step7 k6) fun _ s7 k7 => ?_
    refine follows_cons (step8 k7) fun _ s8 k8 => ?_
    refine follows_cons (step9 k8) fun _ s9 k9 => ?_
    refine follows_cons (step10 k9) fun _ s10 ⟨l, sel, hacs, hsel, k10⟩ => ?_
    have hSel : Sso.selV o (inOfOra o cfg fmt exp) = sel := by simp [Sso.selV, hS, hR, hacs, hsel]
    simp only [hSel]
    refine follows_cons (step11 k10) fun _ s11 k11 => ?_
    refine follows_cons (step12 k11) fun _ s12 k12 => ?_
    refine follows_cons (step13 k12) fun hv13 s13 k13 => ?_
    refine follows_cons (step14 k13) fun _ s14 k14 => ?_
    have hselOf : selOf o cfg fmt exp = sel := by simp [selOf, hdo, hso, hacs, hsel]
    have hco : (inOfOra o cfg fmt exp).createOk = (o.m_CreateAuthRequest (some req) sel.1 sel.2 (theForm o).RelayState sp.ID).2.isNone := by
      rw [hcreate]; simp [createOf, hdo, hso, hselOf]
    simp only [Sso.persistV, hSel, hF, hS, hR, formOf, hco]
    refine follows_cons' (step15 k14) (stopIf_congr fun hc => ?_) fun hv15 s15 ⟨heff, hp15, hsp15, hresp15⟩ => ?_
    · have hc' : (o.m_CreateAuthRequest (some req) sel.1 sel.2 (theForm o).RelayState sp.ID).2.isNone = false := by
        simpa using hc
      rw [hc']; rfl
    -- all fifteen passed: the epilogue redirects to the login page
    · have hb : sel.2 = redirectBinding ∨ sel.2 = postBinding := by
        have := stopIf_pass hv13
        simp only [Bool.not_eq_false', Bool.or_eq_true, beq_iff_eq] at this
        exact this
      have hok : (inOfOra o cfg fmt exp).createOk = true := by rw [hco]; simpa using stopIf_pass hv15
      show obsOf (epilogue o s15) = _
      simp only [epilogue, hresp15, if_pos hb, heff, hsp15, List.cons_append, List.nil_append, obsOf, obsOfEff, obsOfModel,
        firstStop, Sso.loggedIn, Sso.persistV, hSel, hF, hS, hR, formOf, hok, hcid, hso, Option.map_some, Option.getD_some]

end SsoGen
