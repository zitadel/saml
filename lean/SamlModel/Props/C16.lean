import SamlModel.Exec.C16
import SamlModel.Props.FnLemmas
/-!
  C16 — Consumer endpoint selection is a deterministic, documented function of metadata.
  Theorems about `Gen.GetAcsUrlAndBindingForResponse`, the definition go2lean regenerates from
  /repo/pkg/provider/sso.go on every run.  All statements are for lists of any length.
-/
namespace C16
open Go Gen

private theorem xs_eq (o : Ora) (v : String) : isXSBooleanTrue o v = .ok (xsTrue v) := FnLemmas.xs_eq o v

/-- invariant of loop 3 (running minimum) -/
private def Inv3 (seen : List Ep) (s : GetAcsUrlAndBindingForResponse.Frame) : Prop :=
  (s.found = false ∧ seen = []) ∨
  (s.found = true ∧ ∃ e, e ∈ seen ∧ (s.acsUrl, s.protocolBinding) = pairOf e ∧ s.index = idx e ∧
      ∀ e', e' ∈ seen → idx e ≤ idx e')

/-- one iteration of loop 3, as a function on frames -/
private def step3 (x : Ep) (s : GetAcsUrlAndBindingForResponse.Frame) : GetAcsUrlAndBindingForResponse.Frame :=
  if ((!s.found) || decide (idx x < s.index)) = true then
    { s with i := idx x, acsUrl := x.Location, protocolBinding := x.Binding, index := idx x, found := true }
  else { s with i := idx x }

private theorem step3_inv (seen : List Ep) (x : Ep) (s : GetAcsUrlAndBindingForResponse.Frame) (h : Inv3 seen s) :
    Inv3 (seen ++ [x]) (step3 x s) := by
  unfold step3
  by_cases hc : ((!s.found) || decide (idx x < s.index)) = true
  · rw [if_pos hc]
    right
    refine ⟨rfl, x, by simp, rfl, rfl, ?_⟩
    intro e' he'
    rcases h with ⟨hf, hs⟩ | ⟨hf, e, he, _, hidx, hmin⟩
    · obtain rfl := List.mem_singleton.mp (hs ▸ he'); exact Int.le_refl _
    · simp [hf] at hc
      rcases List.mem_append.mp he' with h1 | h1
      · exact Int.le_trans (Int.le_of_lt (hidx ▸ hc)) (hmin e' h1)
      · obtain rfl := List.mem_singleton.mp h1; exact Int.le_refl _
  · rw [if_neg hc]
    rcases h with ⟨hf, _⟩ | ⟨hf, e, he, hp, hidx, hmin⟩
    · simp [hf] at hc
    · right
      simp [hf] at hc
      refine ⟨hf, e, by simp [he], hp, hidx, ?_⟩
      intro e' he'
      rcases List.mem_append.mp he' with h1 | h1
      · exact hmin e' h1
      · obtain rfl := List.mem_singleton.mp h1; exact hidx ▸ hc

private theorem loop3 (rest : List Ep) : ∀ (seen : List Ep) (s : GetAcsUrlAndBindingForResponse.Frame),
    Inv3 seen s → Inv3 (seen ++ rest) (rest.foldl (fun s x => step3 x s) s) := by
  induction rest with
  | nil => intro seen s h; simpa using h
  | cons x xs ih =>
    intro seen s h
    have := ih _ _ (step3_inv seen x s h)
    simpa using this

/-- **C16 (main theorem).** For every registered list and requested binding the selection function
    does not panic and returns a pair related to its inputs by the documented rule. -/
theorem C16_selection_meets_spec (o : Ora) (acs : List Ep) (req : String) :
    ∃ r, select o acs req = .ok r ∧ SpecRel acs req r := by
  unfold select GetAcsUrlAndBindingForResponse GetAcsUrlAndBindingForResponse.body
  simp only [xs_eq, Res.isPanic_ok, Res.get_ok, Bool.false_eq_true, if_false, ← apply_ite Ctl.next]
  rw [goFor_find' (fun (e : Ep) (s : GetAcsUrlAndBindingForResponse.Frame) => e.Binding == s.requestProtocolBinding)
        (fun e _ => (e.Location, e.Binding))]
  dsimp only
  cases h1 : acs.find? (fun e => e.Binding == req) with
  | some e => exact ⟨pairOf e, by simp [pairOf], Or.inr (Or.inl ⟨e, h1, rfl⟩)⟩
  | none =>
    simp only [Ctl.seq_next]
    rw [goFor_find' (fun (e : Ep) (_ : GetAcsUrlAndBindingForResponse.Frame) => xsTrue e.IsDefault)
          (fun e _ => (e.Location, e.Binding))]
    cases h2 : acs.find? (fun e => xsTrue e.IsDefault) with
    | some e => exact ⟨pairOf e, by simp [pairOf], Or.inr (Or.inr (Or.inl ⟨h1, e, h2, rfl⟩))⟩
    | none =>
      simp only [Ctl.seq_next]
      rw [goFor_fold]
      simp only [Ctl.seq_next]
      have hinv := loop3 acs []
        { acs := acs, requestProtocolBinding := req, acsUrl := "", protocolBinding := "", found := false, index := 0 }
        (Or.inl ⟨rfl, rfl⟩)
      simp only [List.nil_append] at hinv
      refine ⟨_, rfl, ?_⟩
      rcases hinv with ⟨_, hnil⟩ | ⟨_, e, he, hp, _, hmin⟩
      · subst hnil; exact Or.inl ⟨rfl, rfl⟩
      · exact Or.inr (Or.inr (Or.inr ⟨h1, h2, e, he, hp, hmin⟩))

/-- the chosen pair always comes from one registered entry (URL and binding of the same entry) -/
theorem C16_from_one_entry (o : Ora) (acs : List Ep) (req : String) :
    (acs = [] ∧ select o acs req = .ok ("", "")) ∨ ∃ e, e ∈ acs ∧ select o acs req = .ok (pairOf e) := by
  obtain ⟨r, hr, hs⟩ := C16_selection_meets_spec o acs req
  rcases hs with ⟨h, rfl⟩ | ⟨e, he, rfl⟩ | ⟨_, e, he, rfl⟩ | ⟨_, _, e, he, rfl, _⟩
  · exact Or.inl ⟨h, hr⟩
  · exact Or.inr ⟨e, List.mem_of_find?_eq_some he, hr⟩
  · exact Or.inr ⟨e, List.mem_of_find?_eq_some he, hr⟩
  · exact Or.inr ⟨e, he, hr⟩

/-- requested binding first, in document order -/
theorem C16_requested_first (o : Ora) (acs : List Ep) (req : String) (e : Ep)
    (h : acs.find? (fun e => e.Binding == req) = some e) : select o acs req = .ok (pairOf e) := by
  obtain ⟨r, hr, hs⟩ := C16_selection_meets_spec o acs req
  rcases hs with ⟨hn, _⟩ | ⟨e', he', rfl⟩ | ⟨hn, _⟩ | ⟨hn, _⟩
  · subst hn; cases h
  · rw [h] at he'; cases he'; exact hr
  · exact nomatch h.symm.trans hn
  · exact nomatch h.symm.trans hn

/-- otherwise the first entry flagged isDefault (xs:boolean true: "true" or "1") -/
theorem C16_default_next (o : Ora) (acs : List Ep) (req : String) (e : Ep)
    (h1 : acs.find? (fun e => e.Binding == req) = none)
    (h2 : acs.find? (fun e => xsTrue e.IsDefault) = some e) : select o acs req = .ok (pairOf e) := by
  obtain ⟨r, hr, hs⟩ := C16_selection_meets_spec o acs req
  rcases hs with ⟨hn, _⟩ | ⟨e', he', _⟩ | ⟨_, e', he', rfl⟩ | ⟨_, hn, _⟩
  · subst hn; cases h2
  · exact nomatch h1.symm.trans he'
  · rw [h2] at he'; cases he'; exact hr
  · exact nomatch h2.symm.trans hn

/-- otherwise an entry with the lowest index -/
theorem C16_lowest_index (o : Ora) (acs : List Ep) (req : String) (hne : acs ≠ [])
    (h1 : acs.find? (fun e => e.Binding == req) = none)
    (h2 : acs.find? (fun e => xsTrue e.IsDefault) = none) :
    ∃ e, e ∈ acs ∧ select o acs req = .ok (pairOf e) ∧ ∀ e', e' ∈ acs → idx e ≤ idx e' := by
  obtain ⟨r, hr, hs⟩ := C16_selection_meets_spec o acs req
  rcases hs with ⟨hn, _⟩ | ⟨e', he', _⟩ | ⟨_, e', he', _⟩ | ⟨_, _, e, he, rfl, hmin⟩
  · exact absurd hn hne
  · exact nomatch h1.symm.trans he'
  · exact nomatch h2.symm.trans he'
  · exact ⟨e, he, hr, hmin⟩

/-- nothing registered: nothing chosen -/
theorem C16_empty (o : Ora) (req : String) : select o [] req = .ok ("", "") := by
  rcases C16_from_one_entry o [] req with ⟨_, h⟩ | ⟨e, he, _⟩
  · exact h
  · cases he

/-- deterministic: the result does not depend on anything but the list and the requested binding -/
theorem C16_deterministic (o o' : Ora) (acs : List Ep) (req : String) : select o acs req = select o' acs req := by
  unfold select GetAcsUrlAndBindingForResponse GetAcsUrlAndBindingForResponse.body
  simp only [xs_eq]

/-- the executable statement used by the counterexample hunt is the relational one -/
theorem specB_iff (acs : List Ep) (req : String) (r : String × String) : specB acs req r = true ↔ SpecRel acs req r := by
  unfold specB SpecRel
  cases acs with
  | nil => simp
  | cons a as =>
    cases h1 : List.find? (fun e => e.Binding == req) (a :: as) with
    | some e => simp
    | none =>
      cases h2 : List.find? (fun e => xsTrue e.IsDefault) (a :: as) with
      | some e => simp
      | none =>
        simp only [List.any_eq_true, Bool.and_eq_true, beq_iff_eq, List.all_eq_true, decide_eq_true_eq]
        constructor
        · rintro ⟨e, he, hr, hm⟩
          exact Or.inr (Or.inr (Or.inr ⟨trivial, trivial, e, he, hr, hm⟩))
        · rintro (⟨h, _⟩ | ⟨e, he, _⟩ | ⟨_, e, he, _⟩ | ⟨_, _, e, he, hr, hm⟩)
          · cases h
          · cases he
          · cases he
          · exact ⟨e, he, hr, hm⟩

theorem C16_holdsOn (o : Ora) (acs : List Ep) (req : String) : holdsOn o acs req = true := by
  obtain ⟨r, hr, hs⟩ := C16_selection_meets_spec o acs req
  unfold holdsOn
  rw [hr]
  exact (specB_iff acs req r).mpr hs

/-- non-vacuity: without a binding match or a default, the entry with index 0 is chosen over 5 and 3 (0 is a value,
    not "unset"); and "1" is a default flag -/
example : ∀ o, select o [{ Index := "0", Binding := "A", Location := "l0" }, { Index := "5", Binding := "A", Location := "l5" },
    { Index := "3", Binding := "A", Location := "l3" }] "B" = .ok ("l0", "A") := by
  intro o; rfl
example : ∀ o, select o [{ Index := "2", Binding := "A", Location := "l2" }, { Index := "7", IsDefault := "1", Binding := "C", Location := "l7" }] "B"
    = .ok ("l7", "C") := by
  intro o; rfl

end C16
