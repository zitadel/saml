import SamlModel.Props.C02
import SamlModel.Props.C05
import SamlModel.Props.C06
import SamlModel.Props.C07
import SamlModel.Props.C09
import SamlModel.Props.SsoGen
import SamlModel.Props.RedirectSigGen
/-!
  Props.SsoProps — C02, C05, C06, C07, C08 and C09 stated on the *regenerated* `ssoHandleFunc`
  (`SsoGen.sso_handler_refines` transports the theorems about the SSO model to it).
-/
namespace SsoGen
open Go Gen Consts CallbackGen Sso

variable (o : Ora) (cfg : provider_IdentityProviderConfig) (fmt : String) (exp : Int)

/-- the regenerated handler sent the user agent to the login page -/
def Redirected : Prop :=
  ∃ pre url, IdentityProvider_ssoHandleFunc o (idp cfg fmt exp) = .ok (pre ++ [Eff.httpRedirect url 303])

variable {o cfg fmt exp}

/-- `sso_handler_refines` with its statement written out -/
theorem refines (henv : EnvOK o cfg fmt exp) :
    obsOf (IdentityProvider_ssoHandleFunc o (idp cfg fmt exp)) = some (obsOfModel o cfg fmt exp (Sso.sso o (inOfOra o cfg fmt exp))) :=
  sso_handler_refines o cfg fmt exp henv

/-! what `obsOfModel` keeps of a result of the model: everything but the number of the failing step -/

theorem obsOfModel_login {r : Sso.Result} {url : String} (h : (obsOfModel o cfg fmt exp r).out = .login url) :
    ∃ id, r.out = .login id ∧ url = o.m_LoginURL (spOf o cfg fmt exp) id := by
  unfold obsOfModel at h
  cases hr : r.out <;> simp [hr] at h
  exact ⟨_, rfl, h.symm⟩

theorem obsOfModel_failed {r : Sso.Result} {st a b rl irt : String} (h : (obsOfModel o cfg fmt exp r).out = .failed st a b rl irt) :
    ∃ n, r.out = .failed n st a b rl irt := by
  unfold obsOfModel at h
  cases hr : r.out <;> simp [hr] at h
  obtain ⟨rfl, rfl, rfl, rfl, rfl⟩ := h
  exact ⟨_, rfl⟩

theorem obsOfModel_panic {r : Sso.Result} (h : (obsOfModel o cfg fmt exp r).out = .panic) : r.out = .panic := by
  unfold obsOfModel at h
  cases hr : r.out <;> simp [hr] at h
  rfl

/-- a trace observed as a login is the redirect alone - and then nothing was persisted - or the one
    `CreateAuthRequest` call and the redirect -/
theorem obsOf_login {t : Res (List Eff)} {r : ObsR} {url : String} (h : obsOf t = some r) (hl : r.out = .login url) :
    (t = .ok [Eff.httpRedirect url 303] ∧ r.persist = none) ∨
    ∃ req acs b relay app, t = .ok [Eff.callCreateAuthRequest req acs b relay app, Eff.httpRedirect url 303] := by
  have eff : ∀ e, obsOfEff e = .login url → e = Eff.httpRedirect url 303 := by
    intro e he
    unfold obsOfEff at he
    split at he <;> cases he
    rfl
  unfold obsOf at h
  split at h <;> cases h
  · cases hl
  · exact .inr ⟨_, _, _, _, _, by rw [eff _ hl]⟩
  · exact .inl ⟨by rw [eff _ hl], rfl⟩

/-- **a login redirect of the regenerated handler is an accepted request of the model**, and it was preceded by exactly
    one `CreateAuthRequest` call, which succeeded -/
theorem login_of_redirected (henv : EnvOK o cfg fmt exp) (h : Redirected o cfg fmt exp) :
    (Sso.sso o (inOfOra o cfg fmt exp)).out = .login o.m_GetID ∧
    ∃ req acs b relay app, IdentityProvider_ssoHandleFunc o (idp cfg fmt exp) =
      .ok [Eff.callCreateAuthRequest req acs b relay app, Eff.httpRedirect (o.m_LoginURL (spOf o cfg fmt exp) o.m_GetID) 303] := by
  obtain ⟨pre, url, ht⟩ := h
  have hr := refines henv
  -- the last write is the redirect, so the trace is observed as a login, and so is the model's result
  have hout : (obsOfModel o cfg fmt exp (Sso.sso o (inOfOra o cfg fmt exp))).out = .login url := by
    rw [ht] at hr
    match pre, hr with
    | [], hr | [.callCreateAuthRequest ..], hr => exact (congrArg ObsR.out (Option.some.inj hr)).symm
    | [.httpError ..], hr | [.httpRedirect ..], hr | [.sendBackResponse ..], hr | _ :: _ :: _, hr => simp [obsOf] at hr
  obtain ⟨id, hid, rfl⟩ := obsOfModel_login hout
  obtain ⟨_, _, _, _, _, _, a⟩ := accepted_of_login hid
  obtain rfl : id = o.m_GetID := a.hid
  refine ⟨hid, ?_⟩
  rcases obsOf_login hr hout with ⟨_, hp⟩ | h
  · exact nomatch hp.symm.trans a.hpersist
  · exact h

end SsoGen

namespace C05
open Go Gen Consts CallbackGen Sso SsoGen FnLemmas

/-- **C05 on the regenerated handler.**  `ssoHandleFunc` as regenerated from sso.go on this run, in any environment
    honouring `EnvOK`: if it sends the user agent to the login page, then the request decoded, its sender is registered,
    and - whenever the service provider's metadata or the IdP's configuration require signed AuthnRequests - the
    signature the binding in use defines was verified (Redirect: over the query octets with the registered key;
    POST: the enveloped signature); a signature value that is present was verified in any case. -/
theorem C05_generated_handler (o : Ora) (cfg : provider_IdentityProviderConfig) (fmt : String) (exp : Int)
    (henv : EnvOK o cfg fmt exp) (h : Redirected o cfg fmt exp) :
    ∃ form req sp, (inOfOra o cfg fmt exp).form = some form ∧ decodedOf o = some req ∧ spOf o cfg fmt exp = some sp ∧
      (Form.WF form → required (inOfOra o cfg fmt exp) sp = true → redirectVerified o form sp ∨ postVerified o form sp) ∧
      (Form.WF form → form.Sig ≠ "" → redirectVerified o form sp) ∧
      (Form.WF form → embProvided req.Signature = true → postVerified o form sp) := by
  obtain ⟨hl, _⟩ := login_of_redirected henv h
  obtain ⟨form, req, sp, p, hf, hd, hs, _, _, _, hreq⟩ := C05_required_implies_verified o _ _ hl
  obtain ⟨form', req', sp', hf', hd', hs', h1, h2⟩ := C05_bad_signature_never_accepted o _ _ hl
  rw [hf] at hf'; rw [hd] at hd'; rw [hs] at hs'
  cases hf'; cases hd'; cases hs'
  exact ⟨form, req, sp, hf, hd, hs, hreq, h1, h2⟩

end C05

namespace C06
open Go Gen Consts CallbackGen Sso SsoGen FnLemmas

/-- **C06 on the regenerated handler.**  A request the regenerated `ssoHandleFunc` accepts (login redirect) satisfies every
    validity condition: non-empty SAMLRequest, no SigAlg without Signature, a decodable AuthnRequest whose Issuer is the
    entity ID of the registered service provider storage returned for it, ID and Version present, Destination absent or
    an advertised SSO location, Conditions (when present) bracketing the current time. -/
theorem C06_generated_handler (o : Ora) (cfg : provider_IdentityProviderConfig) (fmt : String) (exp : Int)
    (henv : EnvOK o cfg fmt exp) (h : Redirected o cfg fmt exp) :
    ∃ form req sp,
      (inOfOra o cfg fmt exp).form = some form ∧ form.AuthRequest ≠ "" ∧ ¬ (form.SigAlg ≠ "" ∧ form.Sig = "") ∧
      decodedOf o = some req ∧ spOf o cfg fmt exp = some sp ∧
      req.Id ≠ "" ∧ req.Version ≠ "" ∧
      (∃ iss m, req.Issuer = some iss ∧ iss.Text ≠ "" ∧ sp.Metadata = some m ∧ iss.Text = m.EntityID) ∧
      DestOK (o.m_GetMetadata (idp cfg fmt exp)).1 req ∧
      (∀ c, req.Conditions = some c → TimeOK o defaultTimeFormat c.NotBefore c.NotOnOrAfter) := by
  obtain ⟨hl, _⟩ := login_of_redirected henv h
  exact C06_accept_implies_valid o (inOfOra o cfg fmt exp) ⟨_, hl⟩

end C06

namespace C08
open Go Gen Consts CallbackGen Sso SsoGen

/-- **C08 on the regenerated handler.**  For every environment honouring `EnvOK`, one run of the regenerated
    `ssoHandleFunc` has exactly one outcome: a panic, or exactly one write to the client, preceded by at most one
    `CreateAuthRequest` call; the call happens only for a request that passed every check (its binding is one the IdP can
    answer), and a request rejected by a check leaves no trace in storage. -/
theorem C08_generated_handler (o : Ora) (cfg : provider_IdentityProviderConfig) (fmt : String) (exp : Int)
    (henv : EnvOK o cfg fmt exp) :
    ∃ r, obsOf (IdentityProvider_ssoHandleFunc o (idp cfg fmt exp)) = some r ∧
      (∀ p, r.persist = some p → (p.binding = redirectBinding ∨ p.binding = postBinding) ∧
        ((∃ url, r.out = .login url) ∨ ∃ a b rl irt, r.out = .failed statusResponder a b rl irt)) ∧
      ((∃ url, r.out = .login url) → ∃ p, r.persist = some p ∧ p.ok = true) := by
  have hr := refines henv
  refine ⟨_, hr, ?_, ?_⟩
  · intro p hp
    -- what is persisted has passed every check, and then the reply is the login redirect or the Responder failure
    obtain ⟨form, req, _, _, _, sel, _, _, hv, rfl, hout⟩ := persisted_inv (show (Sso.sso o (inOfOra o cfg fmt exp)).persist = some p from hp)
    refine ⟨hv.h13, ?_⟩
    cases hc : (inOfOra o cfg fmt exp).createOk
    · exact Or.inr ⟨sel.1, sel.2, form.RelayState, req.Id, by simp [obsOfModel, hout, hc]⟩
    · exact Or.inl ⟨o.m_LoginURL (spOf o cfg fmt exp) (inOfOra o cfg fmt exp).createdID, by simp [obsOfModel, hout, hc]⟩
  · rintro ⟨url, hu⟩
    obtain ⟨id, hid, _⟩ := obsOfModel_login hu
    obtain ⟨_, _, _, _, _, _, a⟩ := accepted_of_login hid
    exact ⟨_, a.hpersist, rfl⟩

end C08

namespace C09
open Go Gen Consts CallbackGen Sso SsoGen

/-- **C09 on the regenerated SSO handler**: in any environment honouring `EnvOK` in which registered service providers
    have an SPSSODescriptor and the IdP metadata is available whenever reading it reports no error, `ssoHandleFunc` as
    regenerated from sso.go on this run does not panic -/
theorem C09_generated_sso_handler (o : Ora) (cfg : provider_IdentityProviderConfig) (fmt : String) (exp : Int)
    (henv : EnvOK o cfg fmt exp)
    (hsp : ∀ sp, spOf o cfg fmt exp = some sp → SpWF sp)
    (hidp : (o.m_GetMetadata (idp cfg fmt exp)).2.2 = none → (o.m_GetMetadata (idp cfg fmt exp)).1.isSome) :
    IdentityProvider_ssoHandleFunc o (idp cfg fmt exp) ≠ .panic := by
  intro hp
  have hr := refines henv
  rw [hp] at hr
  simp only [obsOf, Option.some.injEq] at hr
  refine C09_sso o (inOfOra o cfg fmt exp) hsp ?_ (obsOfModel_panic (by rw [← hr]))
  exact fun hme => hidp (by simpa [inOfOra] using hme)

end C09

namespace C05
open Go Gen Consts CallbackGen Sso SsoGen FnLemmas RedirectSigGen

/-- the storage's service providers validate redirect signatures with the library's own method: the answers of the
    `ValidateRedirectSignature` oracle are those of the regenerated function -/
def RedirectOracleIsGenerated (o : Ora) : Prop :=
  ∀ sp r rs a s, o.m_ValidateRedirectSignature (some sp) r rs a s = (ServiceProvider_ValidateRedirectSignature o (some sp) r rs a s).get

/-- **C05, down to the verified octets.**  If the Redirect signature of an accepted request "verified"
    (`redirectVerified`, the conclusion of `C05_required_implies_verified` / `C05_generated_handler`), then a signing key is
    registered for the service provider, the Signature parameter is base64 of some bytes `sv`, and the signature
    verifier (`signature.ValidateRedirect`: RSA / DSA over the algorithm named by SigAlg) accepted `sv` under that key
    over exactly `octets AuthRequest RelayState SigAlg` - octets that determine these three values
    (`octets_injective`): the signature covers exactly the request content, RelayState and algorithm the endpoint then
    acts on (`form` is what `getAuthRequestFromRequest` read and what is decoded, echoed and persisted). -/
theorem C05_redirect_signature_covers_what_is_acted_on (o : Ora) (hlink : RedirectOracleIsGenerated o) (form : Form)
    (sp : serviceprovider_ServiceProvider) (h : redirectVerified o form sp) :
    sp.signerPublicKey.isSome ∧ ∃ sv, Lib.b64decode form.Sig = some sv ∧
      o.f_ValidateRedirect form.SigAlg (Lib.stringToBytes (String.ofList (octets form.AuthRequest form.RelayState form.SigAlg))) sv
        sp.signerPublicKey = none := by
  obtain ⟨_, _, _, _, hv⟩ := h
  rw [hlink, validateRedirect_spec] at hv
  simp only [Res.get_ok] at hv
  cases hk : sp.signerPublicKey with
  | none => simp [hk] at hv
  | some k =>
    simp only [hk, Option.isNone_some, Bool.false_eq_true, if_false] at hv
    cases hd : Lib.b64decode form.Sig with
    | none => simp [hd] at hv
    | some sv =>
      simp only [hd] at hv
      exact ⟨rfl, sv, rfl, hv⟩

end C05

namespace C02
open Go Gen Consts CallbackGen Sso SsoGen

/-- **C02 on the regenerated SSO handler.**  In any environment honouring `EnvOK`: if `ssoHandleFunc` as regenerated from
    sso.go on this run sends the user agent to the login page, then the (consumer URL, binding) pair it handed to
    `CreateAuthRequest` - the pair the callback will later deliver the assertion to - is the Location and Binding of one
    AssertionConsumerService entry of the metadata registered for the request's issuer; and the failed Responses it writes
    itself are addressed either nowhere (they are returned in the HTTP body) or to such a registered pair. -/
theorem C02_generated_sso_handler (o : Ora) (cfg : provider_IdentityProviderConfig) (fmt : String) (exp : Int)
    (henv : EnvOK o cfg fmt exp) :
    (Redirected o cfg fmt exp →
      ∃ sp e req relay app, spOf o cfg fmt exp = some sp ∧ e ∈ registeredAcs sp ∧
        IdentityProvider_ssoHandleFunc o (idp cfg fmt exp) =
          .ok [Eff.callCreateAuthRequest req e.Location e.Binding relay app,
               Eff.httpRedirect (o.m_LoginURL (spOf o cfg fmt exp) o.m_GetID) 303]) ∧
    (∀ r st a b rl irt, obsOf (IdentityProvider_ssoHandleFunc o (idp cfg fmt exp)) = some r → r.out = .failed st a b rl irt →
      (a = "" ∧ b = "") ∨ ∃ sp e, spOf o cfg fmt exp = some sp ∧ e ∈ registeredAcs sp ∧ a = e.Location ∧ b = e.Binding) := by
  have hr := refines henv
  constructor
  · intro hred
    obtain ⟨hl, req, acs, b, relay, app, ht⟩ := login_of_redirected henv hred
    obtain ⟨sp, e, p, hsp, he, hp, hacs, hb⟩ := C02_sso_persists_registered_pair o (inOfOra o cfg fmt exp) _ hl
    rw [ht] at hr
    simp only [obsOf, Option.some.injEq] at hr
    have hpers := congrArg ObsR.persist hr
    simp only [obsOfModel, hp, Option.some.injEq] at hpers
    have h1 : acs = e.Location := by rw [← hacs, ← hpers]
    have h2 : b = e.Binding := by rw [← hb, ← hpers]
    subst h1 h2
    exact ⟨sp, e, req, relay, app, hsp, he, ht⟩
  · intro r st a b rl irt hobs hout
    rw [hobs] at hr
    simp only [Option.some.injEq] at hr
    subst hr
    obtain ⟨n, hm⟩ := obsOfModel_failed hout
    exact C02_sso_error_targets o (inOfOra o cfg fmt exp) n st a b rl irt hm

end C02

namespace C07
open Go Gen Consts CallbackGen Sso SsoGen

/-- an accepted request of the model is a login redirect of the regenerated handler, after exactly one successful
    `CreateAuthRequest` call -/
theorem redirected_of_login (o : Ora) (cfg : provider_IdentityProviderConfig) (fmt : String) (exp : Int)
    (henv : EnvOK o cfg fmt exp) (id : String) (h : (Sso.sso o (inOfOra o cfg fmt exp)).out = .login id) :
    Redirected o cfg fmt exp := by
  have hr := refines henv
  rcases obsOf_login hr (url := o.m_LoginURL (spOf o cfg fmt exp) id) (by simp [obsOfModel, h]) with ⟨ht, _⟩ | ⟨_, _, _, _, _, ht⟩
  · exact ⟨[], _, ht⟩
  · exact ⟨[_], _, ht⟩

/-- **C07 on the regenerated SSO handler.**  A conformant AuthnRequest of a registered service provider (`ConformantAuthn`
    of the input read off from the environment's answers: correctly encoded, correctly signed where a signature is
    required or present, valid content, answerable consumer endpoint, storage accepts the request) makes the regenerated
    `ssoHandleFunc` persist it and redirect (303) to the login page. -/
theorem C07_generated_sso_handler (o : Ora) (cfg : provider_IdentityProviderConfig) (fmt : String) (exp : Int)
    (henv : EnvOK o cfg fmt exp) (form : Sso.Form) (req : samlp_AuthnRequestType) (iss : saml_NameIDType)
    (sp : serviceprovider_ServiceProvider) (m : md_EntityDescriptorType) (d : md_SPSSODescriptorType) (idpm : md_IDPSSODescriptorType)
    (c : ConformantAuthn o (inOfOra o cfg fmt exp) form req iss sp m d idpm) : Redirected o cfg fmt exp :=
  redirected_of_login o cfg fmt exp henv _ (C07_authn o _ form req iss sp m d idpm c)

end C07
