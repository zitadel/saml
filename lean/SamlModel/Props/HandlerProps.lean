import SamlModel.Props.C01
import SamlModel.Props.C02
import SamlModel.Props.SendBack
import SamlModel.Props.CallbackLemmas
/-!
  Props.HandlerProps — properties of the callback stated on the *regenerated* `callbackHandleFunc`
  (`Props.HandlerGen.handler_refines` transports the theorems about the callback model to it).
  C01's and C09's versions live in Props/C01.lean and Props/C09.lean.  `C03_fields`, the model-level statement the
  C03 version rests on, stands here too: it is read off `Callback.callback_ends`, whose file needs Props/C03.lean.
-/
open Go Gen Consts Callback Redirect

namespace C03
/-- **C03 (fields).** A Success reply for stored request `rec`, audience `aud` and user record `attrs`:
    InResponseTo (response and subject confirmation) is the ID of the original AuthnRequest; Destination and
    Recipient are the stored consumer URL; both Issuers are the IdP entity ID; the audience is the entity ID
    registered for the application; NameID and attribute statement are exactly the user's data; it is
    delivered to the stored (URL, binding) with the stored RelayState; NotBefore = AuthnInstant = IssueInstant,
    the two NotOnOrAfter are the instant plus lifetime; response and assertion IDs are the first two fresh IDs. -/
theorem C03_fields (o : Ora) (i : In) (d : Delivery) (m : Msg) (s : Sig) (h : callback o i = .reply d m s)
    (hs : m.status = statusSuccess) :
    ∃ rec aud attrs asr, i.stored = some rec ∧ i.entity = some aud ∧ i.userinfo = some attrs ∧ m.assertion = some asr ∧
      m.inResponseTo = rec.reqID ∧ asr.scInResponseTo = rec.reqID ∧
      m.destination = rec.acs ∧ asr.scRecipient = rec.acs ∧
      m.issuer = i.issuer ∧ asr.issuer = i.issuer ∧ asr.audiences = [aud] ∧
      asr.nameID = some { Format := "urn:oasis:names:tc:SAML:1.1:nameid-format:emailAddress", Text := attrs.username } ∧
      asr.attributes = specAttrs attrs ∧
      d = deliver rec.acs rec.binding rec.relay ∧
      m.issueInstant = i.issueInstant ∧ asr.issueInstant = i.issueInstant ∧ asr.notBefore = i.issueInstant ∧ asr.authnInstant = i.issueInstant ∧
      asr.notOnOrAfter = i.untilInstant ∧ asr.scNotOnOrAfter = i.untilInstant ∧
      m.id = i.ids 0 ∧ asr.id = i.ids 1 ∧ asr.sessionIndex = asr.id := by
  obtain ⟨rec, aud, attrs, _, _, w, rfl, rfl, -⟩ := succeeded h hs
  -- `d` is `deliver …` and `m` is `successMsg i rec aud attrs`: every remaining conjunct is that, or one of the message's fields
  exact ⟨rec, aud, attrs, _, w.hrec, w.hent, w.hui, rfl, rfl, rfl, rfl, rfl, rfl, rfl, rfl, rfl, rfl, rfl, rfl, rfl, rfl, rfl, rfl, rfl,
    rfl, rfl, rfl⟩

/-- **C03 on the regenerated handler.**  `callbackHandleFunc` as regenerated from login.go on this run, in any
    environment: a Success Response it writes answers the stored request (InResponseTo on the response and in the subject
    confirmation = `GetAuthRequestID()`), is addressed to the stored consumer URL (Destination = Recipient =
    `GetAccessConsumerServiceURL()`) and delivered there with the stored binding and RelayState, is issued by
    `GetEntityID`, restricted to the audience `GetEntityIDByAppID` returned, carries exactly the user's NameID and
    attribute list, the instants `time.Now()` / `time.Now()+Expiration` in the configured layout, and the two
    identifiers `NewID()` returned at the two call sites. -/
theorem C03_generated_handler (o : Gen.Ora) (cfg : Gen.provider_IdentityProviderConfig) (fmt : String) (exp : Int)
    (hsome : (CallbackGen.userinfo o).1 = none → (CallbackGen.userinfo o).2.isSome)
    (resp : Gen.provider_Response) (m : Gen.samlp_ResponseType)
    (ht : Gen.IdentityProvider_callbackHandleFunc o (CallbackGen.idp cfg fmt exp) = .ok [Gen.Eff.sendBackResponse (some resp) (some m)])
    (hs : m.Status.StatusCode.Value = statusSuccess) :
    ∃ attrs asr, (CallbackGen.userinfo o).2 = some attrs ∧ Builders.assertionOf m.Assertion = some asr ∧
      m.InResponseTo = o.m_GetAuthRequestID ∧ asr.scInResponseTo = o.m_GetAuthRequestID ∧
      m.Destination = o.m_GetAccessConsumerServiceURL ∧ asr.scRecipient = o.m_GetAccessConsumerServiceURL ∧
      (m.Issuer.map (·.Text)).getD "" = o.m_GetEntityID (CallbackGen.idp cfg fmt exp) ∧ asr.issuer = o.m_GetEntityID (CallbackGen.idp cfg fmt exp) ∧
      asr.audiences = [(o.m_GetEntityIDByAppID o.m_GetApplicationID).1] ∧
      asr.nameID = some { Format := "urn:oasis:names:tc:SAML:1.1:nameid-format:emailAddress", Text := attrs.username } ∧
      asr.attributes = C03.specAttrs attrs ∧
      deliver resp.AcsUrl resp.ProtocolBinding resp.RelayState = deliver o.m_GetAccessConsumerServiceURL o.m_GetBindingType o.m_GetRelayState ∧
      m.IssueInstant = o.m_Format o.now fmt ∧ asr.notBefore = o.m_Format o.now fmt ∧
      asr.notOnOrAfter = o.m_Format (o.now + exp) fmt ∧ asr.scNotOnOrAfter = o.m_Format (o.now + exp) fmt ∧
      m.Id = o.newID "Response_makeAssertionResponse" 0 ∧ asr.id = o.newID "makeAssertion" 0 := by
  have h := HandlerGen.reply_of_wrote o cfg fmt exp hsome ht
  obtain ⟨rec, aud, attrs, asr, hrec, hent, hui, hasr, h1, h2, h3, h4, h5, h6, h7, h8, h9, hd, h10, _, h11, _, h12, h13, h14, h15, _⟩ :=
    C03.C03_fields o (HandlerGen.inOfOra o cfg fmt exp) _ _ _ h hs
  obtain ⟨_, hid, rec', hrec', hdone, _, _, _, cert, key, hk⟩ :=
    C01.C01_success_only_if_done o (HandlerGen.inOfOra o cfg fmt exp) ⟨_, _, _, h, hs⟩
  obtain ⟨hl, rfl⟩ := HandlerGen.stored_eq_some.mp hrec
  obtain ⟨_, rfl⟩ := HandlerGen.entity_eq_some.mp hent
  obtain ⟨hu, hattrs⟩ := Option.ite_none_right_eq_some.mp hui
  obtain ⟨_, rfl⟩ := HandlerGen.stored_eq_some.mp hrec'
  have hdone' : o.m_Done = true := hdone
  have hb : HandlerGen.built o = true := by simp [HandlerGen.built, hl, hdone', hu, hk]
  have hid0 : (HandlerGen.inOfOra o cfg fmt exp).ids 0 = o.newID "Response_makeAssertionResponse" 0 := by
    simp [HandlerGen.inOfOra, CallbackGen.inOf, HandlerGen.idsOf, hb]
  have hid1 : (HandlerGen.inOfOra o cfg fmt exp).ids 1 = o.newID "makeAssertion" 0 := by
    simp [HandlerGen.inOfOra, CallbackGen.inOf, HandlerGen.idsOf]
  rw [hid0] at h14
  rw [hid1] at h15
  exact ⟨attrs, asr, hattrs, hasr, h1, h2, h3, h4, h5, h6, h7, h8, h9, hd, h10, h11, h12, h13, h14, h15⟩
end C03

namespace C02

/-- **C02 on the regenerated handler.**  Every Response the regenerated `callbackHandleFunc` writes — Success or not —
    is delivered with the consumer URL, binding and RelayState the stored request reports, or, when the storage does
    not know the request, written into the HTTP body (the `Response` it is sent on has no consumer URL).  No other
    oracle answer (form fields besides `id`, user data, keys) reaches the delivery. -/
theorem C02_generated_handler (o : Gen.Ora) (cfg : Gen.provider_IdentityProviderConfig) (fmt : String) (exp : Int)
    (hsome : (CallbackGen.userinfo o).1 = none → (CallbackGen.userinfo o).2.isSome)
    (resp : Gen.provider_Response) (m : Gen.samlp_ResponseType)
    (ht : Gen.IdentityProvider_callbackHandleFunc o (CallbackGen.idp cfg fmt exp) = .ok [Gen.Eff.sendBackResponse (some resp) (some m)]) :
    ((o.m_AuthRequestByID (o.formGet "id")).2.isSome ∧ deliver resp.AcsUrl resp.ProtocolBinding resp.RelayState = .xmlBody) ∨
    ((o.m_AuthRequestByID (o.formGet "id")).2 = none ∧
      deliver resp.AcsUrl resp.ProtocolBinding resp.RelayState =
        deliver o.m_GetAccessConsumerServiceURL o.m_GetBindingType o.m_GetRelayState ∧
      m.Destination = o.m_GetAccessConsumerServiceURL) := by
  rcases C02_callback_uses_stored_pair o (HandlerGen.inOfOra o cfg fmt exp) _ _ _ (HandlerGen.reply_of_wrote o cfg fmt exp hsome ht)
    with ⟨hn, hd⟩ | ⟨rec, hrec, hd, hdest⟩
  · exact .inl ⟨HandlerGen.stored_eq_none.mp hn, hd⟩
  · obtain ⟨hl, rfl⟩ := HandlerGen.stored_eq_some.mp hrec
    exact .inr ⟨hl, hd, hdest⟩

/-- **C02 at the wire, on regenerated code end to end**: the regenerated `callbackHandleFunc` hands its one reply to the
    regenerated `sendBackResponse`, and what that writes (`SendBack.render`, proved equal to the generated function by
    `sendBack_renders`) is, for a request the storage knows and a stored consumer URL: with the POST binding the form
    whose action is exactly the stored consumer URL and whose RelayState is exactly the stored one; with the Redirect
    binding a 302 to `Lib.Url.redirectURL` of the stored consumer URL — that URL with the message parameters inserted
    before its fragment (`C02_wire_redirect`) — carrying the stored RelayState.  No other host, path or RelayState can
    appear, whatever the request, the user data or the keys are. -/
theorem C02_generated_wire (o : Gen.Ora) (cfg : Gen.provider_IdentityProviderConfig) (fmt : String) (exp : Int)
    (hsome : (CallbackGen.userinfo o).1 = none → (CallbackGen.userinfo o).2.isSome)
    (resp : Gen.provider_Response) (m : Gen.samlp_ResponseType)
    (ht : Gen.IdentityProvider_callbackHandleFunc o (CallbackGen.idp cfg fmt exp) = .ok [Gen.Eff.sendBackResponse (some resp) (some m)])
    (hl : (o.m_AuthRequestByID (o.formGet "id")).2 = none) (hacs : o.m_GetAccessConsumerServiceURL ≠ "")
    (data : Lib.Bytes) (hm : o.f_Marshal_ResponseType (some m) = (data, none)) :
    (o.m_GetBindingType = postBinding →
      (SendBack.render o resp (some m)).head? = some (.templateExecute
        { RelayState := o.m_GetRelayState, SAMLResponse := Lib.b64encode data, AssertionConsumerServiceURL := o.m_GetAccessConsumerServiceURL })) ∧
    (o.m_GetBindingType = redirectBinding → ∀ d, o.f_DeflateAndBase64 data = (d, none) →
      SendBack.render o resp (some m) = [.httpRedirect (String.ofList (Lib.Url.redirectURL o.m_GetAccessConsumerServiceURL.toList
        (buildQ (Lib.bytesToString d) o.m_GetRelayState resp.SigAlg resp.Signature))) 302]) := by
  rcases C02_generated_handler o cfg fmt exp hsome resp m ht with ⟨hs, _⟩ | ⟨_, hd, _⟩
  · rw [hl] at hs; simp at hs
  · have hsb := SendBack.sendBack_delivers o resp (some m) data hm
    rw [hd] at hsb
    constructor
    · intro hb; rw [(C03.C03_relay _ _ _ hacs).1 hb] at hsb; exact hsb
    · intro hb; rw [(C03.C03_relay _ _ _ hacs).2 hb] at hsb; exact hsb

end C02
