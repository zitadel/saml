import SamlModel.Generated.Funcs
import SamlModel.Props.FnLemmas
import SamlModel.Lemmas.GoSem
/-!
  Props.NewSpGen — `serviceprovider.NewServiceProvider` and `getSigningCertsFromMetadata` are *translated* (standalone;
  `xml.ParseMetadataXmlIntoStruct` and `signature.ParseCertificates` are typed oracles, `xml.GetCertsFromKeyDescriptors` is
  the generated function).

  * `newServiceProvider_wf`: a service provider the regenerated constructor hands out carries its metadata, and the
    metadata has an SPSSODescriptor - the well-formedness (`SpWF`) the handler theorems assume of registered service
    providers is what the SP-registration API guarantees.
  * `newServiceProvider_no_panic` (C09, SP-registration API): for every metadata document and every answer of the two
    parsers that honours their contract (no error => a document; no nil certificate among the parsed ones), the
    constructor returns - an error or a service provider - and does not panic.
-/
namespace NewSpGen
open Go Gen FnLemmas

/-- what the constructor makes of metadata `m` that has its descriptor and of the signing certificates parsed from it:
    none or one certificate is accepted, a nil certificate is dereferenced -/
def built (id : String) (m : md_EntityDescriptorType) : List (Option x509_Certificate) → Res (Option serviceprovider_ServiceProvider × Err)
  | [] => .ok (some { ID := id, Metadata := some m, signerPublicKey := default }, none)
  | [some cv] => .ok (some { ID := id, Metadata := some m, signerPublicKey := cv.PublicKey }, none)
  | [none] => .panic
  | _ :: _ :: _ => .ok (none, some "currently more than one signing certificate for service providers not supported")

/-- the certificate texts `getSigningCertsFromMetadata` hands to `signature.ParseCertificates` -/
def signingTexts (d : md_SPSSODescriptorType) : List String :=
  d.KeyDescriptor.flatMap fun kd => signingCerts kd.Use kd.KeyInfo.X509Data

theorem getSigningCertsFromMetadata_eq (o : Ora) (m : md_EntityDescriptorType) :
    getSigningCertsFromMetadata o (some m) =
      match m.SPSSODescriptor with
      | none => .panic
      | some d => .ok (o.f_ParseCertificates (signingTexts d)) := by
  cases hd : m.SPSSODescriptor <;>
    simp only [getSigningCertsFromMetadata, getSigningCertsFromMetadata.body, gosem, hd, getCerts_eq, signingTexts]

theorem newServiceProvider_eq (o : Ora) (id : String) (cfg : serviceprovider_Config) :
    NewServiceProvider o id (some cfg) =
      match o.f_ParseMetadataXmlIntoStruct cfg.Metadata with
      | (_, some e) => .ok (none, some e)
      | (none, none) => .panic
      | (some m, none) =>
        match m.SPSSODescriptor with
        | none => .ok (none, some "metadata contains no SPSSODescriptor")
        | some d =>
          match o.f_ParseCertificates (signingTexts d) with
          | (_, some e) => .ok (none, some e)
          | (certs, none) => built id m certs := by
  rcases hp : o.f_ParseMetadataXmlIntoStruct cfg.Metadata with ⟨md, perr⟩
  simp only [NewServiceProvider, NewServiceProvider.body, gosem, hp]
  simp only [Bool.cond_eq_ite]
  cases perr with
  | some e => simp
  | none =>
  cases md with
  | none => simp
  | some m =>
  rw [getSigningCertsFromMetadata_eq]
  cases hd : m.SPSSODescriptor with
  | none => simp [gosem, hd]
  | some d =>
  rcases hg : o.f_ParseCertificates (signingTexts d) with ⟨certs, cerr⟩
  cases cerr with
  | some e => simp [gosem, hd, hg]
  | none =>
    match certs with
    | [] => simp [built, gosem, hd, hg]
    | [none] => simp [built, gosem, hd, hg]
    | [some cv] => simp [built, gosem, hd, hg]
    | _ :: _ :: rest =>
      have : ((List.length rest : Int) + 1 + 1 > 1) := by omega
      simp [built, gosem, hd, hg, this]

theorem newServiceProvider_wf (o : Ora) (id : String) (cfg : serviceprovider_Config) (sp : serviceprovider_ServiceProvider)
    (e : Err) (h : NewServiceProvider o id (some cfg) = .ok (some sp, e)) :
    e = none ∧ sp.ID = id ∧ ∃ m d, sp.Metadata = some m ∧ m.SPSSODescriptor = some d := by
  rw [newServiceProvider_eq] at h
  split at h
  next => cases h
  next => cases h
  next m _ =>
  split at h
  next => cases h
  next d hd =>
  split at h
  next => cases h
  next certs _ =>
  -- `built` hands out a service provider only with this metadata, this ID and no error
  match certs, h with
  | [], h => simp only [built] at h; cases h; exact ⟨rfl, rfl, m, d, rfl, hd⟩
  | [some cv], h => simp only [built] at h; cases h; exact ⟨rfl, rfl, m, d, rfl, hd⟩
  | [none], h => simp [built] at h
  | _ :: _ :: _, h => simp [built] at h

/-- contract of the two parsers -/
def ParsersOK (o : Ora) : Prop :=
  (∀ b, (o.f_ParseMetadataXmlIntoStruct b).2 = none → (o.f_ParseMetadataXmlIntoStruct b).1.isSome) ∧
  (∀ l, ∀ c ∈ (o.f_ParseCertificates l).1, c.isSome)

theorem newServiceProvider_no_panic (o : Ora) (hp : ParsersOK o) (id : String) (cfg : serviceprovider_Config) :
    NewServiceProvider o id (some cfg) ≠ .panic := by
  rw [newServiceProvider_eq]
  rcases hpm : o.f_ParseMetadataXmlIntoStruct cfg.Metadata with ⟨md, perr⟩
  cases perr with
  | some x => simp
  | none =>
    have hsome := hp.1 cfg.Metadata (by rw [hpm])
    rw [hpm] at hsome
    obtain ⟨m, rfl⟩ := Option.isSome_iff_exists.mp hsome
    cases hd : m.SPSSODescriptor with
    | none => simp [hd]
    | some d =>
      rcases hpc : o.f_ParseCertificates (signingTexts d) with ⟨certs, cerr⟩
      have hall := hp.2 (signingTexts d)
      rw [hpc] at hall
      simp only [hd, hpc]
      cases cerr with
      | some x => simp
      | none =>
        -- no nil certificate among the parsed ones: `built` does not dereference one
        match certs, hall with
        | [], _ => simp [built]
        | [c], hall =>
          obtain ⟨cv, rfl⟩ := Option.isSome_iff_exists.mp (hall c (by simp))
          simp [built]
        | _ :: _ :: _, _ => simp [built]

end NewSpGen
