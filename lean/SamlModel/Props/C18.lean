import SamlModel.Lemmas.Xml
import SamlModel.Lemmas.Base64
import SamlModel.Lib.XmlMarshal
import SamlModel.Props.C14
/-!
  C18 — Wire encoding round-trips and cannot be restructured by data.

  Model.  `Lib.XmlMarshal.marshalDoc Gen.Schema.types T v` is `samlxml.Marshal(&v)` / `WriteXMLMarshalled`: the XML
  header followed by the `encoding/xml` printer applied to the tree that the struct marshaller builds from a value of
  wire type `T`.  The *schema* (field order, element / attribute names, namespaces, `omitempty`, `chardata`, …) is read
  from the struct definitions in pkg/provider/xml/** by go2lean on every run (`Gen.Schema`); the marshaller's rules
  and the printer are hand models of encoding/xml, compared byte for byte with the real `Marshal` on every run
  (`lib marshal`).  `Lib.Xml.tokens` is an XML tokenizer written from the XML 1.0 specification, compared with
  `encoding/xml`'s own decoder on every document the harness sees (`lib xmltok`).
-/
namespace C18
open Lib Lib.Xml Lib.XmlMarshal Go Gen

/-- no wire type uses a construct the marshaller model does not cover -/
theorem schema_supported : Gen.Schema.types.all (fun t => t.bad = "") = true := by decide

/-- the characters of a string read off its bytes; they are its characters when re-encoding them gives the string back,
    as it does for ASCII.  (`String.toList` decodes UTF-8 under a validity proof, which is slow for the kernel to
    evaluate over a whole schema; encoding is not.) -/
def asciiChars (s : String) : List Char := s.toByteArray.data.toList.map fun b => Char.ofNat b.toNat

theorem toList_of_asciiChars {s : String} (h : String.ofList (asciiChars s) = s) : s.toList = asciiChars s := by
  conv => lhs; rw [← h]
  exact String.toList_ofList

/-- every element and attribute name the schema can put on the wire is an XML `Name` -/
theorem schema_names_valid :
    Gen.Schema.types.all (fun t => t.fields.all fun f =>
      f.mode = "chardata" || f.mode = "innerxml" || (f.mode = "xmlname" && f.name = "") || validName f.name.toList) = true := by
  have h : Gen.Schema.types.all (fun t => t.fields.all fun f =>
      f.mode = "chardata" || f.mode = "innerxml" || (f.mode = "xmlname" && f.name = "") ||
        (String.ofList (asciiChars f.name) = f.name && validName (asciiChars f.name))) = true := by decide +kernel
  simp only [List.all_eq_true, Bool.or_eq_true, Bool.and_eq_true, decide_eq_true_eq] at h ⊢
  intro t ht f hf
  rcases h t ht f hf with h | ⟨h1, h2⟩
  · exact Or.inl h
  · exact Or.inr (toList_of_asciiChars h1 ▸ h2)

/-- attributes are never namespaced (the printer model has no prefix allocation) -/
theorem schema_attrs_plain : Gen.Schema.types.all (fun t => t.fields.all fun f => f.mode ≠ "attr" || f.ns = "") = true := by
  decide +kernel

/-- the only verbatim (`innerxml`) field is `saml.BaseIDAbstractType.InnerXml`; the IdP never fills it
    (harness: no marshalled message contains a raw node) -/
theorem schema_innerxml : (Gen.Schema.types.filter fun t => t.fields.any fun f => f.mode = "innerxml").map (·.tname) =
    ["saml.BaseIDAbstractType"] := by decide +kernel

theorem C18_source_current : FactsUtil.sameHashes ["xml.Marshal", "xml.WriteXMLMarshalled", "xml.Write", "xml.DeflateAndBase64"] = true := by decide +kernel

/-! ### one well-formed document, which decodes to the values put in -/

/-- **C18 (round trip)**: for every tree the marshaller can build — any values, any bytes — whose names are XML names,
    the reference parser reads back from the marshalled document exactly the tree: the same elements, attributes and
    nesting, and every value as it was put in, with characters outside the XML `Char` range replaced by U+FFFD. -/
theorem C18_roundtrip (n : Node) (h : namesOk n = true) :
    tokens (header ++ print n) = [.pi, .chr '\n'] ++ events n :=
  tokens_doc n h

/-- **C18 (single well-formed document)** -/
theorem C18_wellformed (name ns : Str) (attrs : List (Str × Str)) (kids : Forest)
    (h : namesOk (.elem name ns attrs kids) = true) :
    wellFormed (tokens (header ++ print (.elem name ns attrs kids))) = true :=
  wellFormed_doc name ns attrs kids h

/-- **C18 (data cannot restructure)**: element names, attribute names and nesting of the parsed document are those of
    the tree with every value emptied — no value, whatever it contains, adds, removes or renames anything -/
theorem C18_structure_fixed (n : Node) (h : namesOk n = true) :
    skeleton (tokens (header ++ print n)) = skeleton (events (blank n)) := by
  rw [tokens_doc n h, skeleton_append, skeleton_blank]
  rfl

/-- … in particular two messages of the same shape differ only in their values -/
theorem C18_same_shape (n m : Node) (hn : namesOk n = true) (hm : namesOk m = true) (hs : blank n = blank m) :
    skeleton (tokens (header ++ print n)) = skeleton (tokens (header ++ print m)) := by
  rw [C18_structure_fixed n hn, C18_structure_fixed m hm, hs]

/-- **C18 (exact for legal characters)**: values made of legal XML characters come back exactly -/
theorem C18_legal_exact (s : Str) (h : ∀ c ∈ s, isXmlChar c = true) :
    tokens (header ++ print (.elem "a".toList [] [("k".toList, s)] (.cons (.text s) .nil))) =
      [.pi, .chr '\n', .open "a".toList, .attr "k".toList s, .openEnd] ++ s.map .chr ++ [.close "a".toList] := by
  have hn : namesOk (.elem "a".toList [] [("k".toList, s)] (.cons (.text s) .nil)) = true := by
    simp only [namesOk, namesOkF, List.all_cons, List.all_nil, Bool.and_true]; decide
  rw [tokens_doc _ hn]
  simp [events, eventsForest, attrEvents, allAttrs, sanitize_of_legal s h]

/-- the escaped form of any value contains no markup delimiter and no quote -/
theorem C18_no_markup (s : Str) : ∀ x ∈ escapeChars s, x ≠ '<' ∧ x ≠ '>' ∧ x ≠ '"' ∧ x ≠ '\'' :=
  escapeChars_no_markup s

/-- `DeflateAndBase64` (hand model of the fingerprinted function: DEFLATE, then standard base64 with padding) -/
def deflateAndBase64 (deflate : Lib.Bytes → Lib.Bytes) (data : Lib.Bytes) : String := Lib.b64encode (deflate data)

theorem payloadBytes_deflateAndBase64 {deflate : Lib.Bytes → Lib.Bytes} {data : Lib.Bytes} :
    C14.payloadBytes true (deflateAndBase64 deflate data) = some (deflate data) := by
  simp [C14.payloadBytes, deflateAndBase64, b64decode_encode]

/-- **C18 (codec round trip)**: for every byte string within the decoder's size limit, DEFLATE+base64 followed by the
    decoder with the DEFLATE identifier returns the original bytes.  The compressor/decompressor pair is compress/flate:
    that inflating its own output yields the input is the hypothesis `hflate` (checked differentially on every run). -/
theorem C18_codec_roundtrip (o : Ora) (deflate : Lib.Bytes → Lib.Bytes) (data : Lib.Bytes)
    (hflate : o.inflate (deflate data) = { data := data, err := false }) (hsize : data.length ≤ C14.cap) :
    InflateAndDecode o Consts.encodingDeflate true (deflateAndBase64 deflate data) = .ok (data, none) := by
  have := C14.C14_small_unchanged o true _ _ payloadBytes_deflateAndBase64 (by rw [hflate]; exact hsize) (by rw [hflate])
  rw [this, hflate]

/-- beyond the limit the decoder reports an error — it never returns a truncated message (C14 and C18 meet here) -/
theorem C18_codec_oversize (o : Ora) (deflate : Lib.Bytes → Lib.Bytes) (data : Lib.Bytes)
    (hflate : o.inflate (deflate data) = { data := data, err := false }) (hsize : data.length > C14.cap) :
    ∃ e, InflateAndDecode o Consts.encodingDeflate true (deflateAndBase64 deflate data) = .ok ([], some e) := by
  exact C14.C14_overflow_rejected o true _ _ payloadBytes_deflateAndBase64 (by rw [hflate]; exact hsize)

/-- **C18 (unknown encoding)**: an encoding identifier that is neither absent nor the DEFLATE identifier is an error,
    never a silent pass-through -/
theorem C18_unknown_encoding (o : Ora) (enc : String) (b64 : Bool) (msg : String) (data : Lib.Bytes)
    (h : C14.payloadBytes b64 msg = some data) (h1 : enc ≠ "") (h2 : enc ≠ Consts.encodingDeflate) :
    InflateAndDecode o enc b64 msg = .ok ([], some "unknown encoding") :=
  C14.C14_unknown_encoding o enc b64 msg data h h1 h2

/-- base64 alone round-trips for every byte string -/
theorem C18_base64_roundtrip (bs : Lib.Bytes) : Lib.b64decode (Lib.b64encode bs) = some bs := b64decode_encode bs

/-! ### non-vacuity: a hostile status message through the real schema -/

/-- a LogoutResponse whose status message tries to close the element and open another -/
def hostile : GVal :=
  .struct (.cons (.struct (.cons (.str []) (.cons (.str []) .nil)))        -- XMLName
    (.cons (.str "id\"1".toList) (.cons (.str "req<1>".toList) (.cons (.str "2.0".toList) (.cons (.str "t".toList)
    (.cons (.str "https://sp/slo?a=1&b=2".toList) (.cons (.str []) (.cons .nil (.cons .nil (.cons .nil
    (.cons (.struct (.cons (.struct (.cons (.str []) (.cons (.str []) .nil)))
        (.cons (.struct (.cons (.struct (.cons (.str []) (.cons (.str []) .nil))) (.cons (.str "urn:x".toList) (.cons .nil .nil))))
        (.cons (.str "</StatusMessage></Status><Status>]]>&#0;\u0001".toList) (.cons .nil .nil))))) .nil)))))))))))

/-- what `marshalTree` returns is an element: the only way `mElem` yields exactly one node -/
theorem marshalTree_elem {S : List Schema.TypeInfo} {t : String} {v : GVal} {n : Node} (h : marshalTree S t v = some n) :
    ∃ name ns attrs kids, n = .elem name ns attrs kids := by
  unfold marshalTree at h
  cases v with
  | struct vals =>
    simp only [mElem] at h
    split at h
    next m heq =>
      cases h
      -- every arm of `mElem` on a struct but its last is `none`; the last is one `.elem`
      repeat' split at heq
      all_goals cases heq
      all_goals exact ⟨_, _, _, _, rfl⟩
    next => cases h
  | _ => simp [mElem] at h

theorem marshalDoc_wellFormed {S : List Schema.TypeInfo} {t : String} {v : GVal} (h : (marshalTree S t v).map namesOk = some true) :
    ((marshalDoc S t v).map fun d => wellFormed (tokens d)) = some true := by
  unfold marshalDoc
  cases hm : marshalTree S t v with
  | none => rw [hm] at h; cases h
  | some n =>
    rw [hm] at h
    obtain ⟨name, ns, attrs, kids, rfl⟩ := marshalTree_elem hm
    simp only [Option.map_some, Option.some.injEq] at h ⊢
    exact wellFormed_doc name ns attrs kids h

theorem hostile_namesOk : ((marshalTree Gen.Schema.types "samlp.LogoutResponseType" hostile).map namesOk) = some true := by
  decide +kernel

example : ((marshalTree Gen.Schema.types "samlp.LogoutResponseType" hostile).map namesOk) = some true := hostile_namesOk
example : ((marshalDoc Gen.Schema.types "samlp.LogoutResponseType" hostile).map fun d => wellFormed (tokens d)) = some true :=
  marshalDoc_wellFormed hostile_namesOk

end C18
