import SamlModel.Generated.Funcs
import SamlModel.Model.FactsUtil
import SamlModel.Lemmas.GoSem
import SamlModel.Lemmas.ByteIndex
/-!
  C19 — Issuer validation and derivation.  Theorems about the generated `ValidateIssuer`,
  `ValidateIssuerPath`, `devLocalAllowed`, `hasQueryOrFragment`, `dynamicIssuer` (context.go).
  `url.Parse` is an oracle (`o.urlParse`): its record is what `net/url` reports for the string.
-/
namespace C19
open Go Gen

theorem validatePath_eq (o : Ora) (u : UrlRec) :
    ValidateIssuerPath o (some u) = .ok (if u.Fragment != "" || u.RawQuery != "" || u.ForceQuery then some "no fragments or query allowed for issuer" else none) := by
  unfold ValidateIssuerPath ValidateIssuerPath.body
  by_cases h1 : u.Fragment = "" <;> by_cases h2 : u.RawQuery = "" <;> cases h3 : u.ForceQuery <;> simp [h1, h2, h3]

theorem devLocal_eq (o : Ora) (u : UrlRec) (insecure : Bool) :
    devLocalAllowed o (some u) insecure = .ok (insecure && u.Scheme == "http") := by
  simp only [devLocalAllowed, devLocalAllowed.body, gosem]
  cases insecure <;> rfl

theorem hasQF_eq (o : Ora) (raw : String) : hasQueryOrFragment o raw = .ok (Lib.containsAny raw "?#") := by
  simp only [hasQueryOrFragment, hasQueryOrFragment.body, gosem]

/-- https, or http when insecure mode is on (`devLocalAllowed`) -/
def schemeOK (u : UrlRec) (insecure : Bool) : Bool := u.Scheme == "https" || (insecure && u.Scheme == "http")

/-- what `ValidateIssuer` answers: the error of the first check that fails, in the order of the code -/
def issuerErr (o : Ora) (issuer : String) (insecure : Bool) : Err :=
  if issuer = "" then some "missing issuer" else
  match o.urlParse issuer with
  | none => some "invalid url for issuer"
  | some u =>
    if u.hostname = "" then some "host for issuer missing"
    else if !schemeOK u insecure then some "scheme for issuer must be `https`"
    else if Lib.containsAny issuer "?#" = true then some "no fragments or query allowed for issuer"
    else if (u.Fragment != "" || u.RawQuery != "" || u.ForceQuery) = true then some "no fragments or query allowed for issuer"
    else none

theorem validateIssuer_eq (o : Ora) (issuer : String) (insecure : Bool) :
    ValidateIssuer o issuer insecure = .ok (issuerErr o issuer insecure) := by
  cases hp : o.urlParse issuer with
  | none =>
    simp only [ValidateIssuer, ValidateIssuer.body, gosem, hp, issuerErr]
    simp only [Bool.cond_eq_ite]
    by_cases h0 : issuer = "" <;> simp [h0]
  | some u =>
    simp only [ValidateIssuer, ValidateIssuer.body, gosem, hp, devLocal_eq, hasQF_eq, validatePath_eq, issuerErr]
    simp only [Bool.cond_eq_ite]
    -- the code asks `devLocalAllowed` only when the scheme is not https; `schemeOK` says both at once
    by_cases hs : u.Scheme = "https" <;> simp [hs, schemeOK, apply_ite Res.ok]

theorem validateIssuer_ok_iff (o : Ora) (issuer : String) (insecure : Bool) :
    ValidateIssuer o issuer insecure = .ok none ↔
      issuer ≠ "" ∧ ∃ u, o.urlParse issuer = some u ∧ u.hostname ≠ "" ∧
        (u.Scheme = "https" ∨ (insecure = true ∧ u.Scheme = "http")) ∧
        Lib.containsAny issuer "?#" = false ∧ u.Fragment = "" ∧ u.RawQuery = "" ∧ u.ForceQuery = false := by
  rw [validateIssuer_eq, Res.ok.injEq]
  cases hp : o.urlParse issuer with
  | none => simp [issuerErr, hp, ite_some_eq_none]
  | some u => simp [issuerErr, hp, ite_some_eq_none, schemeOK, Decidable.or_iff_not_imp_left]

/-- **C19 (static issuer).** `ValidateIssuer` succeeds only for a non-empty string that parses as a URL with a
    non-empty host name, scheme https (http only in insecure mode), and neither `?` nor `#` anywhere —
    hence no query and no fragment, not even an empty one. -/
theorem C19_static_only_if (o : Ora) (issuer : String) (insecure : Bool) (h : ValidateIssuer o issuer insecure = .ok none) :
    issuer ≠ "" ∧ ∃ u, o.urlParse issuer = some u ∧ u.hostname ≠ "" ∧
      (u.Scheme = "https" ∨ (insecure = true ∧ u.Scheme = "http")) ∧
      Lib.containsAny issuer "?#" = false ∧ u.Fragment = "" ∧ u.RawQuery = "" ∧ u.ForceQuery = false :=
  (validateIssuer_ok_iff o issuer insecure).mp h

/-- validation never panics -/
theorem C19_validate_no_panic (o : Ora) (issuer : String) (insecure : Bool) : ValidateIssuer o issuer insecure ≠ .panic := by
  rw [validateIssuer_eq]; intro h; cases h

/-- http is accepted only when insecure mode was explicitly enabled -/
theorem C19_http_needs_insecure (o : Ora) (issuer : String) (u : UrlRec) (hp : o.urlParse issuer = some u) (hs : u.Scheme ≠ "https") :
    ValidateIssuer o issuer false ≠ .ok none := by
  intro h
  obtain ⟨_, u', hu, _, hsch, _⟩ := C19_static_only_if o issuer false h
  cases hp.symm.trans hu
  rcases hsch with h1 | ⟨h1, _⟩
  · exact hs h1
  · cases h1

/-- the configured path, given a leading slash if it lacks one -/
def normPath (path : String) : String := if path ≠ "" ∧ Lib.hasPrefix path "/" = false then "/" ++ path else path

/-- **C19 (derived issuer).** `dynamicIssuer host path insecure` is "https://" (or "http://" in insecure mode) + host
    + the configured path with a leading slash; nothing else enters. -/
theorem C19_dynamic_shape (o : Ora) (host path : String) (insecure : Bool) :
    dynamicIssuer o host path insecure = .ok ((if insecure then "http" else "https") ++ "://" ++ host ++ normPath path) := by
  unfold dynamicIssuer dynamicIssuer.body normPath
  by_cases hp : path = ""
  · subst hp; cases insecure <;> simp [Lib.goLen]
  · have hpos : Lib.goLen path > 0 := (Lib.goLen_pos path).mpr hp
    by_cases hs : Lib.hasPrefix path "/" = true
    · cases insecure <;> simp [hp, hpos, hs]
    · have hs' : Lib.hasPrefix path "/" = false := by simpa using hs
      cases insecure <;> simp [hp, hpos, hs']

/-- the request contributes the host only: the derived issuer as a function of what `issuerFromForwardedOrHost`
    reads from the request — the first host of the configured forwarding headers if any, else `r.Host` -/
def derivedIssuer (o : Ora) (path : String) (insecure : Bool) (firstForwardedHost : Option String) (reqHost : String) : Res String :=
  dynamicIssuer o (firstForwardedHost.getD reqHost) path insecure

theorem C19_nothing_else_from_request (o o' : Ora) (path : String) (insecure : Bool) (fwd : Option String) (reqHost : String) :
    derivedIssuer o path insecure fwd reqHost = derivedIssuer o' path insecure fwd reqHost ∧
    (∃ s, derivedIssuer o path insecure fwd reqHost = .ok s ∧
      Lib.hasPrefix s (if insecure then "http://" else "https://") = true) := by
  unfold derivedIssuer
  rw [C19_dynamic_shape, C19_dynamic_shape]
  refine ⟨rfl, _, rfl, ?_⟩
  cases insecure <;> simp [Lib.hasPrefix, String.toList_append]

theorem C19_source_current :
    FactsUtil.sameHashes ["provider.NewProvider", "provider.IssuerInterceptor.setIssuerCtx", "provider.IssuerFromContext"] = true := by decide +kernel

/-- non-vacuity -/
def ora0 : Ora where
  now := 0
  timeParse := fun _ _ => none
  m_ValidateRedirectSignature := fun _ _ _ _ _ => none
  m_ValidatePostSignature := fun _ _ => none
  urlParse := fun s => if s == "https://idp/saml" then some { Scheme := "https", Host := "idp", hostname := "idp" }
    else if s == "https://idp/saml?" then some { Scheme := "https", Host := "idp", hostname := "idp", ForceQuery := true } else none
  inflate := fun _ => {}
  m_GetResponseSigningKey := (none, none)
example : ValidateIssuer ora0 "https://idp/saml" false = .ok none := by decide +kernel
example : ValidateIssuer ora0 "https://idp/saml?" false = .ok (some "no fragments or query allowed for issuer") := by decide +kernel
example : dynamicIssuer ora0 "h.example" "saml" true = .ok "http://h.example/saml" := by decide +kernel

end C19
