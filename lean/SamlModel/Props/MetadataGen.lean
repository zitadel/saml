import SamlModel.Generated.Funcs
import SamlModel.Model.Consts
import SamlModel.Model.Metadata
import SamlModel.Props.C03
import SamlModel.Props.FnLemmas
import SamlModel.Lemmas.Builders
import SamlModel.Lemmas.GoSem
/-!
  Props.MetadataGen — `Provider.metadataHandle`, `Provider.GetMetadata`, `Config.getMetadata` and `getMetadataCert` are
  *translated* (go2lean, regenerated on every run; `IdentityProvider.GetMetadata`, `signature.GetSigner`,
  `signature.Create`, the storage's `GetMetadataSigningKey` and the write error are typed oracles).
  `IdentityProviderConfig.getMetadata`, `IdentityProvider.GetMetadata` and `GetEntityID` are also translated standalone:
  `getMetadata_spec`, `C11_generated_metadata`.

  `metadataHandle_spec`: for every behaviour of that environment the regenerated handler writes HTTP 500 - and no
  document - whenever the metadata cannot be assembled or, with metadata signing configured, the signing key cannot be
  read (error, nil record, nil key, missing certificate), the signer cannot be built or the signature cannot be created;
  otherwise it writes exactly one document, which carries the signature the signer produced iff signing is configured
  - or panics where `Config.getMetadata` panics or hands back no descriptor (excluded in Props/MetadataProps).
-/
namespace MetadataGen
open Go Gen Consts

variable (o : Ora) (st : Unit) (c : provider_Config) (idp : Option provider_IdentityProvider)

def prov : Option provider_Provider := some { storage := st, conf := some c, identityProvider := idp }

/-- metadata signing is configured -/
def signing : Bool :=
  match c.MetadataConfig with
  | none => false
  | some mc => mc.SignatureAlgorithm != ""

def alg : String := (c.MetadataConfig.map (·.SignatureAlgorithm)).getD ""

theorem getMetadataCert_eq : getMetadataCert o st = .ok (FnLemmas.certSpec o.m_GetMetadataSigningKey) := by
  rcases h : o.m_GetMetadataSigningKey with ⟨ck, e⟩
  simp only [getMetadataCert, getMetadataCert.body, gosem, h, FnLemmas.certSpec]
  simp only [Bool.cond_eq_ite]
  cases e with
  | some e => simp
  | none =>
    cases ck with
    | none => simp [gosem]
    | some ck => cases hk : ck.Key <;> cases hl : ck.Certificate <;> simp [gosem, hk, hl]

/-- what follows the document: nothing, or the (too late) 500 -/
def afterWrite : List Eff :=
  match o.writeErr "Provider_metadataHandle" 0 with
  | none => []
  | some _ => [.httpError "failed to respond with metadata" 500]

/-- what `Provider.GetMetadata` returns: the assembled descriptor, with the signature `signature.Create` made for it put
    in when signing is configured -/
def assembled : Res (Option md_EntityDescriptorType × Err) :=
  match Config_getMetadata o (some c) idp with
  | .panic => .panic
  | .ok (_, some e) => .ok (none, some e)
  | .ok (md, none) =>
    if signing c then
      match getMetadataCert o st with
      | .panic => .panic
      | .ok (_, _, some e) => .ok (none, some e)
      | .ok (cert, key, none) =>
        match o.f_GetSigner cert key (alg c) with
        | (_, some e) => .ok (none, some e)
        | (signer, none) =>
          match o.f_Create_EntityDescriptorType signer md with
          | (_, some e) => .ok (none, some e)
          | (sig, none) =>
            match md with
            | none => .panic
            | some m => .ok (some { m with Signature := sig }, none)
    else .ok (md, none)

theorem providerGetMetadata_eq : Provider_GetMetadata o (prov st c idp) = assembled o st c idp := by
  rcases hcm : Config_getMetadata o (some c) idp with ⟨md, e⟩ | _
  · cases hmc : c.MetadataConfig with
    | none =>
      simp only [Provider_GetMetadata, Provider_GetMetadata.body, prov, gosem, hcm, hmc, assembled, signing]
      cases e <;> simp [gosem]
    | some mc =>
      rcases hk : FnLemmas.certSpec o.m_GetMetadataSigningKey with ⟨cert, key, kerr⟩
      rcases hs : o.f_GetSigner cert key mc.SignatureAlgorithm with ⟨signer, serr⟩
      rcases hcr : o.f_Create_EntityDescriptorType signer md with ⟨sig, cerr⟩
      simp only [Provider_GetMetadata, Provider_GetMetadata.body, prov, gosem, hcm, hmc, getMetadataCert_eq, hk, hs, hcr, assembled,
        signing, alg, Option.map_some]
      simp only [Bool.cond_eq_ite]
      cases e with
      | some e => simp
      | none =>
      by_cases ha : mc.SignatureAlgorithm = ""
      · simp [ha]
      cases kerr with
      | some e => simp [ha]
      | none =>
      cases serr with
      | some e => simp [ha, hs]
      | none =>
      cases cerr with
      | some e => simp [ha, hs, hcr]
      | none => cases md <;> simp [ha, hs, hcr, gosem]
  · simp only [Provider_GetMetadata, Provider_GetMetadata.body, prov, gosem, hcm, assembled, if_true]

theorem metadataHandle_eq (p : Option provider_Provider) :
    Provider_metadataHandle o p =
      match Provider_GetMetadata o p with
      | .panic => .panic
      | .ok (_, some e) => .ok [.httpError ("error while getting metadata: " ++ e) 500]
      | .ok (md, none) => .ok (.xmlWriteMarshalled_EntityDescriptorType md :: afterWrite o) := by
  rcases hg : Provider_GetMetadata o p with ⟨md, e⟩ | _
  · simp only [Provider_metadataHandle, Provider_metadataHandle.body, gosem, hg, afterWrite]
    simp only [Bool.cond_eq_ite]
    cases e <;> cases hw : o.writeErr "Provider_metadataHandle" 0 <;> simp
  · simp only [Provider_metadataHandle, Provider_metadataHandle.body, gosem, hg, if_true]

theorem metadataHandle_spec :
    Provider_metadataHandle o (prov st c idp) =
      match Config_getMetadata o (some c) idp with
      | .panic => .panic
      | .ok (_, some e) => .ok [.httpError ("error while getting metadata: " ++ e) 500]
      | .ok (md, none) =>
        if signing c then
          match getMetadataCert o st with
          | .panic => .panic
          | .ok (_, _, some e) => .ok [.httpError ("error while getting metadata: " ++ e) 500]
          | .ok (cert, key, none) =>
            match o.f_GetSigner cert key (alg c) with
            | (_, some e) => .ok [.httpError ("error while getting metadata: " ++ e) 500]
            | (signer, none) =>
              match o.f_Create_EntityDescriptorType signer md with
              | (_, some e) => .ok [.httpError ("error while getting metadata: " ++ e) 500]
              | (sig, none) =>
                match md with
                | none => .panic
                | some m => .ok (.xmlWriteMarshalled_EntityDescriptorType (some { m with Signature := sig }) :: afterWrite o)
        else .ok (.xmlWriteMarshalled_EntityDescriptorType md :: afterWrite o) := by
  rw [metadataHandle_eq, providerGetMetadata_eq]
  unfold assembled
  -- both sides branch alike; `metadataHandle_eq` turns each leaf of `assembled` into what is written
  rcases Config_getMetadata o (some c) idp with ⟨md, _ | e⟩ | _
  · dsimp only
    cases signing c
    · rfl
    · simp only [↓reduceIte]
      rcases getMetadataCert o st with ⟨cert, key, _ | e⟩ | _
      · dsimp only
        rcases o.f_GetSigner cert key (alg c) with ⟨signer, _ | e⟩
        · dsimp only
          rcases o.f_Create_EntityDescriptorType signer md with ⟨sig, _ | e⟩
          · cases md <;> rfl
          · rfl
        · rfl
      · rfl
      · rfl
  · rfl
  · rfl

/-- the handler wrote a metadata document -/
def Wrote (md : Option md_EntityDescriptorType) : Prop :=
  ∃ rest, Provider_metadataHandle o (prov st c idp) = .ok (.xmlWriteMarshalled_EntityDescriptorType md :: rest)

theorem wrote_iff (md : Option md_EntityDescriptorType) : Wrote o st c idp md ↔ assembled o st c idp = .ok (md, none) := by
  unfold Wrote
  rw [metadataHandle_eq, providerGetMetadata_eq]
  rcases assembled o st c idp with ⟨md', _ | e⟩ | _ <;> simp

/-- **C11 on the regenerated metadata handler: signed iff configured.**  A document the handler writes is the assembled
    metadata; with signing configured it carries exactly the signature `signature.Create` returned for it, without
    signing configured it is written as assembled (unsigned). -/
theorem C11_generated_signed_iff_configured (md : Option md_EntityDescriptorType) (h : Wrote o st c idp md) :
    ∃ m0, Config_getMetadata o (some c) idp = .ok (m0, none) ∧
      (signing c = false → md = m0) ∧
      (signing c = true → ∃ m cert key signer sig, m0 = some m ∧ getMetadataCert o st = .ok (cert, key, none) ∧
          o.f_GetSigner cert key (alg c) = (signer, none) ∧ o.f_Create_EntityDescriptorType signer m0 = (sig, none) ∧
          md = some { m with Signature := sig }) := by
  rw [wrote_iff] at h
  unfold assembled at h
  split at h
  next => cases h
  next => cases h
  next m0 hcm =>
  refine ⟨m0, hcm, fun hs => ?_, fun hs => ?_⟩
  · rw [hs] at h; cases h; rfl
  · rw [hs, if_pos rfl] at h
    split at h
    next => cases h
    next => cases h
    next cert key hk =>
    split at h
    next => cases h
    next signer hsg =>
    split at h
    next => cases h
    next sig hcr =>
    split at h
    · cases h
    cases h
    exact ⟨_, cert, key, signer, sig, rfl, hk, hsg, hcr, rfl⟩

/-- **C10 on the regenerated metadata handler (fail closed).**  With metadata signing configured, a storage that cannot
    hand out a usable metadata signing key - it reports an error, returns no record, a record without key or without
    certificate - makes the handler answer HTTP 500; no document is written. -/
theorem C10_generated_metadata_key_failure (hs : signing c = true)
    (hk : o.m_GetMetadataSigningKey.2.isSome ∨ o.m_GetMetadataSigningKey.1 = none ∨
          ∃ ck, o.m_GetMetadataSigningKey.1 = some ck ∧ (ck.Key = none ∨ ck.Certificate = []))
    (md : Option md_EntityDescriptorType) : ¬ Wrote o st c idp md := by
  intro hw
  obtain ⟨_, _, _, h⟩ := C11_generated_signed_iff_configured o st c idp md hw
  obtain ⟨_, cert, key, _, _, _, hcert, _⟩ := h hs
  -- every key shape named in `hk` is one `getMetadataCert` refuses
  rw [getMetadataCert_eq] at hcert
  have := (FnLemmas.certSpec_fails _).mpr hk
  rw [Res.ok.inj hcert] at this
  cases this

/-- **C10 on the regenerated metadata handler: signer failures.**  With signing configured, a failing `GetSigner` or a
    failing `signature.Create` means no document is written. -/
theorem C10_generated_metadata_signer_failure (hs : signing c = true)
    (hf : (∀ cert key, (o.f_GetSigner cert key (alg c)).2.isSome) ∨ (∀ sg md, (o.f_Create_EntityDescriptorType sg md).2.isSome))
    (md : Option md_EntityDescriptorType) : ¬ Wrote o st c idp md := by
  intro hw
  obtain ⟨m0, _, _, h⟩ := C11_generated_signed_iff_configured o st c idp md hw
  obtain ⟨_, cert, key, signer, sig, _, _, hsg, hcr, _⟩ := h hs
  rcases hf with hf | hf
  · exact nomatch hsg ▸ hf cert key
  · exact nomatch hcr ▸ hf signer m0

/-! ### The descriptors (`IdentityProviderConfig.getMetadata`, `IdentityProvider.GetMetadata`, `GetEntityID`; translated standalone) -/

open Builders

theorem absolute_ok (o : Ora) (e : provider_Endpoint) (issuer : String) :
    Endpoint_Absolute o e issuer = .ok (Metadata.abs o e issuer) := by
  rw [Metadata.abs, Builders.endpointAbsolute_eq]; rfl

/-- the endpoints in effect for a configuration -/
def epsOf (o : Ora) (c : provider_IdentityProviderConfig) : provider_Endpoints :=
  ((endpointConfigToEndpoints o c.Endpoints).get).getD default

/-- **the IdP descriptors, as regenerated from metadata.go**: never a panic for a configuration with its metadata
    options, and what the two descriptors advertise -/
theorem getMetadata_spec (o : Ora) (c : provider_IdentityProviderConfig) (mc : provider_MetadataIDPConfig)
    (hmc : c.MetadataIDPConfig = some mc) (entityID issuer : String) (cert : Lib.Bytes) (tf : String) :
    ∃ md aa, IdentityProviderConfig_getMetadata o (some c) entityID issuer cert tf = .ok (some md, some aa) ∧
      md.WantAuthnRequestsSigned = c.WantAuthRequestsSigned ∧
      md.SingleSignOnService = [{ Binding := redirectBinding, Location := Metadata.abs o (epsOf o c).singleSignOnEndpoint issuer },
                                { Binding := postBinding, Location := Metadata.abs o (epsOf o c).singleSignOnEndpoint issuer }] ∧
      md.SingleLogoutService = [{ Binding := redirectBinding, Location := Metadata.abs o (epsOf o c).singleLogoutEndpoint issuer },
                                { Binding := postBinding, Location := Metadata.abs o (epsOf o c).singleLogoutEndpoint issuer }] ∧
      aa.AttributeService = [{ Binding := "urn:oasis:names:tc:SAML:2.0:bindings:SOAP", Location := Metadata.abs o (epsOf o c).attributeEndpoint issuer }] ∧
      (∀ kd ∈ md.KeyDescriptor, ∀ x ∈ kd.KeyInfo.X509Data, x.X509Certificate = Lib.b64encode cert) ∧
      aa.KeyDescriptor = md.KeyDescriptor := by
  have he := endpointConfigToEndpoints_eq o c.Endpoints
  have hsaml := C03.getSAML_eq o
    { (default : provider_Attributes) with
      email := "empty", fullName := "empty", givenName := "empty", surname := "empty", userID := "empty", username := "empty",
      customAttributes := [] }
  -- the body runs once; the three `if`s only add to the frame (a key descriptor, two attributes of the descriptor), so
  -- what is left is a choice between eight results, each with the advertised content
  simp only [IdentityProviderConfig_getMetadata, IdentityProviderConfig_getMetadata.body, gosem, he, hsaml, hmc, absolute_ok,
    epsOf, redirectBinding, postBinding]
  cases c.EncryptionAlgorithm != "" <;> cases mc.ValidUntil != 0 <;> cases mc.CacheDuration != "" <;>
    refine ⟨_, _, rfl, ?_⟩ <;> simp

/-- **C11 on the regenerated metadata assembly.**  `IdentityProvider.GetMetadata` as regenerated from identityprovider.go /
    metadata.go on this run, for an identity provider with its metadata options: it fails exactly when the response
    signing key cannot be obtained; otherwise the IDPSSODescriptor advertises - for both bindings - the SSO and SLO
    endpoints' absolute URLs for the issuer in effect, the AttributeAuthorityDescriptor the attribute endpoint's, the
    `WantAuthnRequestsSigned` flag is the configured string verbatim, and every key descriptor carries exactly the
    response signing certificate the key getter returned (the one assertions are signed with). -/
theorem C11_generated_metadata (o : Ora) (idpv : provider_IdentityProvider) (c : provider_IdentityProviderConfig)
    (mc : provider_MetadataIDPConfig) (mep : provider_Endpoint) (hc : idpv.conf = some c) (hmc : c.MetadataIDPConfig = some mc)
    (hme : idpv.metadataEndpoint = some mep) :
    match getResponseCert o idpv.storage with
    | .panic => IdentityProvider_GetMetadata o (some idpv) = .panic
    | .ok (_, _, some e) => IdentityProvider_GetMetadata o (some idpv) = .ok (none, none, some e)
    | .ok (cert, _, none) =>
      ∃ md aa, IdentityProvider_GetMetadata o (some idpv) = .ok (some md, some aa, none) ∧
        md.WantAuthnRequestsSigned = c.WantAuthRequestsSigned ∧
        md.SingleSignOnService = [{ Binding := redirectBinding, Location := Metadata.abs o (epsOf o c).singleSignOnEndpoint (o.f_IssuerFromContext ()) },
                                  { Binding := postBinding, Location := Metadata.abs o (epsOf o c).singleSignOnEndpoint (o.f_IssuerFromContext ()) }] ∧
        md.SingleLogoutService = [{ Binding := redirectBinding, Location := Metadata.abs o (epsOf o c).singleLogoutEndpoint (o.f_IssuerFromContext ()) },
                                  { Binding := postBinding, Location := Metadata.abs o (epsOf o c).singleLogoutEndpoint (o.f_IssuerFromContext ()) }] ∧
        aa.AttributeService = [{ Binding := "urn:oasis:names:tc:SAML:2.0:bindings:SOAP", Location := Metadata.abs o (epsOf o c).attributeEndpoint (o.f_IssuerFromContext ()) }] ∧
        (∀ kd ∈ md.KeyDescriptor, ∀ x ∈ kd.KeyInfo.X509Data, x.X509Certificate = Lib.b64encode cert) ∧
        aa.KeyDescriptor = md.KeyDescriptor := by
  unfold IdentityProvider_GetMetadata IdentityProvider_GetMetadata.body
  cases hk : getResponseCert o idpv.storage with
  | panic => simp
  | ok t =>
    obtain ⟨cert, key, kerr⟩ := t
    cases kerr with
    | some e => simp
    | none =>
      have hent : IdentityProvider_GetEntityID o (some idpv) = .ok (Metadata.abs o mep (o.f_IssuerFromContext ())) := by
        simp [IdentityProvider_GetEntityID, IdentityProvider_GetEntityID.body, absolute_ok, hme]
      obtain ⟨md, aa, hg, h1, h2, h3, h4, h5, h6⟩ := getMetadata_spec o c mc hmc (Metadata.abs o mep (o.f_IssuerFromContext ()))
        (o.f_IssuerFromContext ()) cert idpv.TimeFormat
      refine ⟨md, aa, ?_, h1, h2, h3, h4, h5, h6⟩
      simp [hent, hc, hg]

end MetadataGen
