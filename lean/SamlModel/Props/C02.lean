import SamlModel.Lemmas.Url
import SamlModel.Props.SsoLemmas
import SamlModel.Props.C16
import SamlModel.Props.C13
import SamlModel.Props.CallbackLemmas
/-!
  C02 — SAML responses are only ever delivered to registered endpoints.
  Delivery targets in the three handler models are always read from registered metadata (SSO, logout) or
  from the stored request (callback); the pair persisted by the SSO endpoint is one registered
  AssertionConsumerService entry (C16 on the generated selection function).
-/
namespace C02
open Go Gen Consts

/-- the registered AssertionConsumerService entries of a service provider -/
def registeredAcs (sp : serviceprovider_ServiceProvider) : List md_IndexedEndpointType := (Sso.spAcs sp).getD []

theorem selected_registered {o : Ora} {i : Sso.In} {form : Sso.Form} {req : samlp_AuthnRequestType}
    {sp : serviceprovider_ServiceProvider} {acsList : List md_IndexedEndpointType} {sel : String × String}
    (v : Sso.Verified o i form req sp acsList sel) :
    sel = ("", "") ∨ ∃ e, e ∈ registeredAcs sp ∧ sel = (e.Location, e.Binding) := by
  rcases C16.C16_from_one_entry o acsList req.ProtocolBinding with ⟨_, hs⟩ | ⟨e, he, hs⟩
  · exact Or.inl (Res.ok.inj (v.hsel.symm.trans hs))
  · exact Or.inr ⟨e, by simp [registeredAcs, v.hacs, he], Res.ok.inj (v.hsel.symm.trans hs)⟩

/-- **C02 (SSO, persistence).** The (URL, binding) pair persisted for an accepted request is one of the
    AssertionConsumerService entries registered for the service provider named by the request's issuer. -/
theorem C02_sso_persists_registered_pair (o : Ora) (i : Sso.In) (id : String) (h : (Sso.sso o i).out = .login id) :
    ∃ sp e p, i.sp = some sp ∧ e ∈ registeredAcs sp ∧ (Sso.sso o i).persist = some p ∧
      p.acs = e.Location ∧ p.binding = e.Binding := by
  obtain ⟨form, req, iss, sp, acsList, sel, a⟩ := Sso.accepted_of_login h
  rcases selected_registered a.toVerified with hs | ⟨e, he, hs⟩
  · exact absurd (congrArg Prod.fst hs) a.h11
  · exact ⟨sp, e, _, a.hsp, he, a.hpersist, congrArg Prod.fst hs, congrArg Prod.snd hs⟩

/-- **C02 (SSO, error replies).** A failed Response of the SSO endpoint is returned in the HTTP body (no target)
    or addressed to a registered AssertionConsumerService entry of the issuer's service provider — never to a
    URL taken from the request. -/
theorem C02_sso_error_targets (o : Ora) (i : Sso.In) (n : Nat) (st a b r irt : String)
    (h : (Sso.sso o i).out = .failed n st a b r irt) :
    (a = "" ∧ b = "") ∨ ∃ sp e, i.sp = some sp ∧ e ∈ registeredAcs sp ∧ a = e.Location ∧ b = e.Binding := by
  -- the delivery parameters are empty until the selection step and the selected pair afterwards
  have key : ∀ {form req iss sp acsList} {sel : String × String},
      Sso.Found i form req iss sp → Sso.Verified o i form req sp acsList sel → a = sel.1 → b = sel.2 →
      (a = "" ∧ b = "") ∨ ∃ sp e, i.sp = some sp ∧ e ∈ registeredAcs sp ∧ a = e.Location ∧ b = e.Binding := by
    intro form req iss sp acsList sel f v ha hb
    rcases selected_registered v with hs | ⟨e, he, hs⟩
    · exact Or.inl ⟨by rw [ha, hs], by rw [hb, hs]⟩
    · exact Or.inr ⟨sp, e, f.hsp, he, by rw [ha, hs], by rw [hb, hs]⟩
  have he := Sso.sso_ends o i
  generalize Sso.sso o i = res at he h
  cases he with
  | early => cases h; exact Or.inl ⟨rfl, rfl⟩
  | late n' st' f v => cases h; exact key f v rfl rfl
  | persisted f v =>
    cases hc : i.createOk with
    | false => rw [hc] at h; cases h; exact key f v rfl rfl
    | true => rw [hc] at h; cases h
  | _ => cases h

/-- **C02 (callback).** Whatever the callback answers, it is delivered with the (URL, binding, RelayState)
    persisted for the request — or written into the HTTP body when no stored request was found. -/
theorem C02_callback_uses_stored_pair (o : Ora) (i : Callback.In) (d : Callback.Delivery) (m : Callback.Msg) (s : Callback.Sig)
    (h : Callback.callback o i = .reply d m s) :
    (i.stored = none ∧ d = .xmlBody) ∨ ∃ rec, i.stored = some rec ∧ d = Callback.deliver rec.acs rec.binding rec.relay ∧ m.destination = rec.acs := by
  have he := Callback.callback_ends o i
  rw [h] at he
  cases he with
  | unknown hrec => exact Or.inl ⟨hrec, rfl⟩
  | failed id st hrec => exact Or.inr ⟨_, hrec, rfl, rfl⟩
  | success _ _ hrec => exact Or.inr ⟨_, hrec, rfl, rfl⟩

/-- the delivery function only ever yields its own arguments as target -/
theorem C02_deliver_target (acs binding relay : String) :
    Callback.deliver acs binding relay = .xmlBody ∨ Callback.deliver acs binding relay = .postForm acs relay ∨
    Callback.deliver acs binding relay = .redirect acs relay := by
  unfold Callback.deliver
  split
  · exact Or.inl rfl
  split
  · exact Or.inr (Or.inl rfl)
  split
  · exact Or.inr (Or.inr rfl)
  · exact Or.inl rfl

/-- **C02 (logout).** (restating C13_delivery) a LogoutResponse is posted only to the first registered
    SingleLogoutService location of the issuer's service provider -/
theorem C02_logout_target (o : Ora) (i : Logout.In) (action relay : String) (m : Logout.Msg)
    (h : Logout.logout o i = .reply (.postForm action relay) m) :
    ∃ form sp md dsc, i.form = some form ∧ i.sp = some sp ∧ sp.Metadata = some md ∧ md.SPSSODescriptor = some dsc ∧
      action = Logout.firstSlo dsc ∧ relay = form.RelayState := by
  have hd := C13.C13_delivery o i _ m h
  by_cases hs : m.status = statusSuccess
  · obtain ⟨form, sp, md, dsc, hf, hsp, hm, hdsc, _, hcase⟩ := hd.2 hs
    rcases hcase with ⟨_, hx⟩ | ⟨_, hx⟩
    · cases hx
    · cases hx; exact ⟨form, sp, md, dsc, hf, hsp, hm, hdsc, rfl, rfl⟩
  · have := (hd.1 hs).1; cases this

/-- the redirect URL `sendBackResponse` builds (`Lib.Url.redirectURL`; `SendBack.redirect_target` shows the translated
    code computes it): the consumer URL up to its fragment, then "?" — or "&" when the URL already has a query — then
    the message parameters, then the fragment -/
def redirectURL (acs query : String) : String := String.ofList (Lib.Url.redirectURL acs.toList query.toList)

/-- the redirect goes to the stored consumer URL: the URL sent is that URL with the message parameters inserted
    before its fragment (if any), joined with `?` or — when it already has a query — `&` -/
theorem C02_wire_redirect (acs query : String) :
    ∃ target frag sep, (redirectURL acs query).toList = target ++ sep :: query.toList ++ frag ∧ target ++ frag = acs.toList ∧
      '#' ∉ target ∧ (frag = [] ∨ frag.head? = some '#') ∧
      (sep = '?' ∨ sep = '&') ∧ (sep = '&' ↔ '?' ∈ target) := by
  refine ⟨Lib.Url.redirectTarget acs.toList, Lib.Url.redirectFragment acs.toList,
    (if (Lib.Url.redirectTarget acs.toList).contains '?' then '&' else '?'), ?_, ?_, ?_, ?_, ?_, ?_⟩
  · simp [redirectURL, Lib.Url.redirectURL]
  · exact List.takeWhile_append_dropWhile
  · intro hm
    simpa using Lib.Url.redirectTarget_noHash _ _ hm
  · exact (Lib.Url.redirectFragment_cases _).imp_right fun ⟨cs, h⟩ => by rw [h]; rfl
  · split <;> simp
  · by_cases h : '?' ∈ Lib.Url.redirectTarget acs.toList <;> simp [h]

/-- no fingerprint belongs to this property: the SSO handler, the logout handler and `sendBackLogoutResponse` are
    translated (`SsoGen.sso_handler_refines`, `LogoutGen.logout_handler_refines`, `LogoutGen.sloSendBack_renders`) -/
theorem C02_source_current : True := trivial

end C02
