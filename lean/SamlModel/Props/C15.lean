import SamlModel.Lemmas.Interleave
import SamlModel.Lemmas.Uuid
import SamlModel.Model.Callback
import SamlModel.Props.Current
import SamlModel.Props.Stateless
/-!
  Props.C15 — concurrent requests are isolated and draw pairwise distinct identifiers (partial: data-race freedom
  under the Go memory model and real scheduling are observed with the race detector, not proved).
-/
namespace C15
open Interleave

variable {κ ν ρ : Type} [DecidableEq κ]

def init (progs : Nat → Prog κ ν ρ) (store : κ → Option ν) : State κ ν ρ :=
  { procs := fun i => { prog := progs i }, store := store }

/-- request `i`, served alone from the given storage, never reads a record created by another request in flight -/
def DistinctSession (e : Env κ) (S : State κ ν ρ) (i : Nat) : Prop := ∀ n, readsOwn e (alone e S i n) i

/-- **isolation**: under any schedule, request `i` is in exactly the state it reaches alone after as many steps as
    the schedule gave it -/
theorem C15_isolation (e : Env κ) (S : State κ ν ρ) (sched : List Nat) (i : Nat) (h : DistinctSession e S i) :
    (run e S sched).procs i = (alone e S i (sched.count i)).procs i :=
  (sim_run sched (sim_refl e i S) h).1

/-- **each reply is determined by its own request**: whenever the reply of request `i` is written under a schedule,
    it is the reply request `i` writes when served alone -/
theorem C15_reply_is_own (e : Env κ) (S : State κ ν ρ) (sched : List Nat) (i : Nat) (r : ρ) (h : DistinctSession e S i)
    (hr : replyOf (run e S sched) i = some r) : ∀ m, sched.count i ≤ m → replyOf (alone e S i m) i = some r := by
  intro m hm
  have h1 := C15_isolation e S sched i h
  have h2 : replyOf (alone e S i (sched.count i)) i = some r := by
    unfold replyOf at hr ⊢; rw [← h1]; exact hr
  exact alone_done h2 hm

/-- **no cross-talk**: replace every other request by any other request, reschedule arbitrarily (same number of steps
    for `i`), change any record of the other requests' name spaces — request `i` ends in the same state.  In
    particular nothing of another session (request ID, RelayState, consumer URL, audience, host, user attributes) can
    appear in its reply unless it is in its own request or in the records it names. -/
theorem C15_no_cross_talk (e : Env κ) (S S' : State κ ν ρ) (sched sched' : List Nat) (i : Nat)
    (hsame : S'.procs i = S.procs i) (hstore : ∀ k, ¬ foreign e i k → S'.store k = S.store k)
    (h : DistinctSession e S i) (hc : sched'.count i = sched.count i) :
    (run e S' sched').procs i = (run e S sched).procs i := by
  have h1 := (sim_run sched' ⟨hsame, hstore⟩ h).1
  have h2 := C15_isolation e S sched i h
  rw [h1, h2, hc]

/-- **frame**: the reply depends on the storage only through records outside the other requests' name spaces -/
theorem C15_frame (e : Env κ) (S S' : State κ ν ρ) (i n : Nat)
    (hsame : S'.procs i = S.procs i) (hstore : ∀ k, ¬ foreign e i k → S'.store k = S.store k)
    (h : DistinctSession e S i) : (alone e S' i n).procs i = (alone e S i n).procs i := by
  have := (sim_run (List.replicate n i) ⟨hsame, hstore⟩ h).1
  rw [run_replicate] at this
  simpa using this

/-- **identifiers**: under any schedule the identifiers request `i` drew are the first values of its own stream … -/
theorem C15_ids_own (e : Env κ) (progs : Nat → Prog κ ν ρ) (store : κ → Option ν) (sched : List Nat) (i : Nat) :
    ((run e (init progs store) sched).procs i).ids =
      (List.range ((run e (init progs store) sched).procs i).drawn).map (e.ids i) :=
  idsInv_run sched (fun _ => rfl) i

/-- … so all identifiers of all requests, across all interleavings, are pairwise distinct when the source does not
    repeat (`uuid.New`: 122 random bits; the assumption is stated, not proved) -/
theorem C15_ids_distinct (e : Env κ) (progs : Nat → Prog κ ν ρ) (store : κ → Option ν) (sched : List Nat)
    (hinj : ∀ a b n m, e.ids a n = e.ids b m → a = b ∧ n = m) :
    (∀ i, ((run e (init progs store) sched).procs i).ids.Nodup) ∧
    (∀ i j x, x ∈ ((run e (init progs store) sched).procs i).ids → x ∈ ((run e (init progs store) sched).procs j).ids → i = j) := by
  constructor
  · intro i
    rw [C15_ids_own]
    exact List.Pairwise.map (e.ids i) (fun a b hab heq => hab (hinj i i a b heq).2) List.nodup_range
  · intro i j x hi hj
    rw [C15_ids_own] at hi hj
    obtain ⟨a, _, ha⟩ := List.mem_map.mp hi
    obtain ⟨b, _, hb⟩ := List.mem_map.mp hj
    exact (hinj i j a b (ha.trans hb.symm)).1

/-- **all identifiers are legal xs:ID tokens**: `NewID()` is `_` followed by the canonical rendering of the 16 bytes the
    generator drew; for every such 16 bytes (indeed any bytes) that is an NCName, 37 characters long -/
theorem C15_ids_are_xsID (bs : List UInt8) (h : bs.length = 16) :
    Lib.Uuid.isXsID (Lib.Uuid.newID bs) = true ∧ (Lib.Uuid.newID bs).length = 37 := by
  refine ⟨Lib.Uuid.newID_isXsID bs, ?_⟩
  simp [Lib.Uuid.newID, Lib.Uuid.render_length bs h]

/-- `NewID` is the function the rendering was modelled from, and go.mod names the version of the UUID library it was
    compared with -/
theorem C15_newid_current :
    FactsUtil.sameHashes ["provider.NewID"] = true ∧ FactsUtil.lookup Gen.Facts.deps "github.com/google/uuid" = "v1.6.0" :=
  ⟨FactsUtil.newID_current, by decide +kernel⟩

/-! ## The premise, tied to the source -/

/-- **shared state is read-only**: in code reachable from a route handler (object-level call graph over all packages
    of the module) nothing is assigned through the provider / configuration / service-provider structs, no mutable
    package variable is used, no `sync` primitive sits on a shared struct; every package variable is of a kind that
    cannot carry request data; and the shared structs have exactly the fields the model was written against -/
theorem C15_shared_state_readonly :
    Gen.Facts.sharedTouches = [] ∧
    Gen.Facts.globals.all (fun g => g.2.2 == "safe") = true ∧
    Gen.Facts.sharedFields = Expected.sharedFields ∧
    Gen.Facts.writes.all (fun w => !w.2.2) = true :=
  Stateless.handlers_stateless

/-! ## The shape of the real endpoints -/

inductive Key where
  | req (id : String)
  | app (id : String)
  | user (id : String)
deriving DecidableEq, Repr

inductive Val where
  | req (r : Callback.Rec)
  | entity (e : String)
  | user (a : Gen.provider_Attributes)

def asRec : Option Val → Option Callback.Rec
  | some (.req r) => some r
  | _ => none
def asEntity : Option Val → Option String
  | some (.entity e) => some e
  | _ => none
def asUser : Option Val → Option Gen.provider_Attributes
  | some (.user a) => some a
  | _ => none

/-- the login callback as a program: read the stored request (`AuthRequestByID`), the application's entity ID
    (`GetEntityIDByAppID`), the user (`SetUserinfoWithUserID`), draw the message identifiers, reply
    `Callback.callback` of exactly those answers -/
def callbackProg (o : Gen.Ora) (base : Callback.In) (id : Key) : Prog Key Val Callback.Out :=
  .read id fun vr =>
    match asRec vr with
    | none => .fresh fun i0 => .done (Callback.callback o { base with stored := none, ids := fun _ => i0 })
    | some rec =>
      .read (.app rec.appID) fun ve => .read (.user rec.userID) fun vu =>
        .fresh fun i0 => .fresh fun i1 => .fresh fun i2 =>
          .done (Callback.callback o { base with stored := some rec, entity := asEntity ve, userinfo := asUser vu,
                                                 ids := fun n => if n = 0 then i0 else if n = 1 then i1 else i2 })

/-- one session: the SSO endpoint persists the request (`CreateAuthRequest`), later the callback for the identifier
    the storage returned is served -/
def sessionProg (o : Gen.Ora) (base : Callback.In) (rec : Callback.Rec) : Prog Key Val Callback.Out :=
  .create (.req rec) fun k => callbackProg o base k

theorem callbackProg_safe {e : Env Key} {o : Gen.Ora} {base : Callback.In} {i : Nat} {st : Key → Option Val} {c d : Nat} {id : Key}
    (hid : ¬ foreign e i id)
    (hrec : ∀ rec, asRec (st id) = some rec → ¬ foreign e i (.app rec.appID) ∧ ¬ foreign e i (.user rec.userID)) :
    SafeProg e i st c d (callbackProg o base id) := by
  unfold callbackProg
  apply SafeProg.read hid
  cases h : asRec (st id) with
  | none => exact .fresh .done
  | some rec =>
    obtain ⟨ha, hu⟩ := hrec rec h
    exact .read ha (.read hu (.fresh (.fresh (.fresh .done))))

theorem sessionProg_safe {e : Env Key} {o : Gen.Ora} {base : Callback.In} {rec : Callback.Rec} {i : Nat} {st : Key → Option Val}
    (hown : ∀ n, ¬ foreign e i (e.alloc i n))
    (happ : ¬ foreign e i (.app rec.appID)) (huser : ¬ foreign e i (.user rec.userID)) :
    SafeProg e i st 0 0 (sessionProg o base rec) := by
  unfold sessionProg
  apply SafeProg.create
  apply callbackProg_safe (hown 0)
  intro rec' h
  rw [if_pos rfl] at h; cases h
  exact ⟨happ, huser⟩

/-- **a session among arbitrary other traffic**: if the records it names besides its own (application, user) are not
    in other sessions' name spaces, then whatever the other requests are and however they are scheduled, the session
    ends in the state it reaches alone — and the same for any other set of neighbours, any other schedule that gives
    it as many steps, any other content of the neighbours' records -/
theorem C15_session_isolated (e : Env Key) (o : Gen.Ora) (base : Callback.In) (rec : Callback.Rec)
    (others others' : Nat → Prog Key Val Callback.Out) (store store' : Key → Option Val) (sched sched' : List Nat) (i : Nat)
    (hown : ∀ n, ¬ foreign e i (e.alloc i n))
    (happ : ¬ foreign e i (.app rec.appID)) (huser : ¬ foreign e i (.user rec.userID))
    (hstore : ∀ k, ¬ foreign e i k → store' k = store k) (hc : sched'.count i = sched.count i) :
    let S := init (fun j => if j = i then sessionProg o base rec else others j) store
    let S' := init (fun j => if j = i then sessionProg o base rec else others' j) store'
    (run e S sched).procs i = (alone e S i (sched.count i)).procs i ∧
    (run e S' sched').procs i = (run e S sched).procs i := by
  intro S S'
  have hsafe : SafeState e i S := by
    unfold SafeState
    simp only [S, init, if_true]
    exact sessionProg_safe hown happ huser
  have hd : DistinctSession e S i := fun n => readsOwn_of_safe (safeState_alone hsafe n)
  refine ⟨C15_isolation e S sched i hd, ?_⟩
  apply C15_no_cross_talk e S S' sched sched' i ?_ hstore hd hc
  simp [S, S', init]

/-- non-vacuity: name spaces by session number; a session reads its own record and two shared, pre-existing ones -/
example : let e : Env Key := { alloc := fun i n => .req s!"ar-{i}-{n}", ids := fun i n => s!"_{i}-{n}" }
    ¬ foreign e 0 (.app "app-1") ∧ ¬ foreign e 0 (.user "uid-1") := by
  intro e
  constructor <;> (rintro ⟨j, n, _, h⟩; simp [e] at h)

end C15
