import SamlModel.Props.FnLemmas
import SamlModel.Model.Metadata
import SamlModel.Lemmas.GoSem
/-!
  Props.CertGen — `IdentityProvider.certificateHandleFunc` is *translated* (go2lean, regenerated on every run): the local
  `bytes.Buffer` is the bytes written to it, `pem.Encode` a library oracle (`pemEncode`), `w.Header().Set` and
  `io.Copy(w, buffer)` effects of the returned trace, the error of the copy the write oracle.

  `certificateHandle_spec` characterises the regenerated handler for every answer of its environment; C10 (no
  certificate when the key getter fails), C11 (the body is the PEM of the key getter's certificate), C09 (no panic) and
  the refinement of the hand model `Metadata.certificate` follow.
-/
namespace CertGen
open Go Gen Consts

variable (o : Ora) (idp : provider_IdentityProvider)

/-- what follows the PEM body: nothing, or the (too late) 500 -/
def afterCopy : List Eff :=
  match o.writeErr "IdentityProvider_certificateHandleFunc" 0 with
  | none => []
  | some e => [.httpError ("failed to response with certificate: " ++ e) 500]

theorem certificateHandle_spec :
    IdentityProvider_certificateHandleFunc o (some idp) =
      match getResponseCert o idp.storage with
      | .panic => .panic
      | .ok (_, _, some e) => .ok [.httpError ("failed to read certificate: " ++ e) 500]
      | .ok (cert, _, none) =>
        match o.pemEncode "CERTIFICATE" cert with
        | (_, some e) => .ok [.httpError ("failed to pem encode certificate: " ++ e) 500]
        | (pem, none) =>
          .ok ([.setHeader "Content-Disposition" "attachment; filename=idp.crt", .setHeader "Content-Type" (o.headerGet "Content-Type"),
                .writeBody pem] ++ afterCopy o) := by
  rcases hk : getResponseCert o idp.storage with ⟨cert, key, e⟩ | _
  · rcases hp : o.pemEncode "CERTIFICATE" cert with ⟨pem, pe⟩
    simp only [IdentityProvider_certificateHandleFunc, IdentityProvider_certificateHandleFunc.body, gosem, hk, hp, afterCopy]
    simp only [Bool.cond_eq_ite]
    cases e <;> cases pe <;> cases o.writeErr "IdentityProvider_certificateHandleFunc" 0 <;> simp [hp]
  · simp only [IdentityProvider_certificateHandleFunc, IdentityProvider_certificateHandleFunc.body, gosem, hk]

/-- **C10 on the regenerated certificate handler (fail closed).**  When the response signing key cannot be obtained -
    the getter reports an error, returns no record, a record without key or certificate - the handler answers HTTP 500
    and writes no certificate: the trace is exactly one `http.Error`. -/
theorem C10_generated_certificate_key_failure (cert : Lib.Bytes) (key : Option KeyRec) (e : String)
    (h : getResponseCert o idp.storage = .ok (cert, key, some e)) :
    IdentityProvider_certificateHandleFunc o (some idp) = .ok [.httpError ("failed to read certificate: " ++ e) 500] := by
  rw [certificateHandle_spec, h]

/-- the regenerated handler writes a body only with the key getter's certificate, PEM-encoded by the library: the
    certificate offered for download is the one responses are signed with (C11) -/
theorem C11_generated_certificate_body (body : Lib.Bytes) (pre post : List Eff)
    (h : IdentityProvider_certificateHandleFunc o (some idp) = .ok (pre ++ .writeBody body :: post)) :
    ∃ cert key, getResponseCert o idp.storage = .ok (cert, key, none) ∧ (o.pemEncode "CERTIFICATE" cert) = (body, none) := by
  -- the body written is in the trace; the only trace with a body has the PEM of the key getter's certificate
  have hm : Eff.writeBody body ∈ pre ++ .writeBody body :: post := by simp
  rw [certificateHandle_spec] at h
  split at h
  next => cases h
  next => rw [← Res.ok.inj h] at hm; simp at hm
  next cert key hk =>
  split at h <;> rw [← Res.ok.inj h] at hm
  next => simp at hm
  next pem hp =>
  refine ⟨cert, key, hk, ?_⟩
  unfold afterCopy at hm
  cases hw : o.writeErr "IdentityProvider_certificateHandleFunc" 0 <;> simp [hw] at hm <;> rw [hm, hp]

/-- **C09 on the regenerated certificate handler**: no panic, whatever the storage returns -/
theorem C09_generated_certificate_handler : IdentityProvider_certificateHandleFunc o (some idp) ≠ .panic := by
  rw [certificateHandle_spec, FnLemmas.getResponseCert_eq]
  rcases FnLemmas.certSpec _ with ⟨cert, key, _ | e⟩ <;> simp
  split <;> simp

/-- the hand model `Metadata.certificate` is what the regenerated handler does, read through the observation
    "HTTP 500 / the PEM of this certificate" -/
theorem certificate_refines (st : Unit) (hst : idp.storage = st) :
    match Metadata.certificate o with
    | .panic => IdentityProvider_certificateHandleFunc o (some idp) = .panic
    | .httpError _ => ∃ m, IdentityProvider_certificateHandleFunc o (some idp) = .ok [.httpError m 500] ∨
        (∃ cert key, getResponseCert o () = .ok (cert, key, none) ∧ (o.pemEncode "CERTIFICATE" cert).2.isSome)
    | .pem cert => (o.pemEncode "CERTIFICATE" cert).2.isSome ∨
        ∃ rest, IdentityProvider_certificateHandleFunc o (some idp) =
          .ok (.setHeader "Content-Disposition" "attachment; filename=idp.crt" :: .setHeader "Content-Type" (o.headerGet "Content-Type") ::
            .writeBody (o.pemEncode "CERTIFICATE" cert).1 :: rest)
    | _ => True := by
  rw [certificateHandle_spec, hst]
  unfold Metadata.certificate
  cases hk : getResponseCert o () with
  | panic => simp
  | ok t =>
    obtain ⟨cert, key, e⟩ := t
    cases e with
    | some e => simp
    | none =>
      simp
      rcases hp : o.pemEncode "CERTIFICATE" cert with ⟨pem, pe⟩
      cases pe with
      | some pe => left; simp
      | none => right; exact ⟨_, rfl⟩

end CertGen
