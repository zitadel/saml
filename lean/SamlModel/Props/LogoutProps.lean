import SamlModel.Props.C13
import SamlModel.Props.LogoutGen
/-!
  Props.LogoutProps — C13 stated on the *regenerated* `logoutHandleFunc`
  (`LogoutGen.logout_handler_refines` transports the theorems about the logout model to it).
-/
namespace C13
open Go Gen Consts LogoutGen CallbackGen Builders

variable (o : Ora) (cfg : provider_IdentityProviderConfig) (fmt : String) (exp : Int)

/-- every service provider the storage hands out has an SPSSODescriptor (NewServiceProvider refuses others) -/
def StorageWF : Prop := ∀ iss sp, (o.m_GetServiceProvider (idp cfg fmt exp) iss).1 = some sp → SpWF sp

private theorem spOf_wf (hwf : StorageWF o cfg fmt exp) : ∀ sp, (inOfOra o cfg fmt exp).sp = some sp → SpWF sp := by
  intro sp h
  simp only [inOfOra, spOf] at h
  split at h
  · cases h
  split at h
  · cases h
  exact hwf _ sp (Option.ite_none_right_eq_some.mp h).2

private theorem outOfEff_reply {e : Eff} {d : Logout.Delivery} {msg : Logout.Msg} (h : outOfEff e = .reply d msg) :
    ∃ resp m, e = .sendBackLogoutResponse (some resp) (some m) ∧ logoutMsgOf m = msg := by
  unfold outOfEff at h
  split at h
  next resp m =>
    simp only [Logout.Out.reply.injEq] at h
    exact ⟨resp, m, rfl, h.2⟩
  next => simp at h

/-- **C13 on the regenerated handler: exactly one LogoutResponse, issued by the IdP.**  `logoutHandleFunc` as
    regenerated from logout.go on this run, in any environment (form parser, decoder, storage, clock, identifier
    source) that honours `EnvOK` and `StorageWF`: it does not panic, writes exactly once, what it writes is a
    LogoutResponse issued by `GetEntityID`, with a status, and echoing the request ID whenever the request decoded. -/
theorem C13_generated_one_response (henv : EnvOK o cfg fmt exp) (hwf : StorageWF o cfg fmt exp) :
    ∃ resp m, IdentityProvider_logoutHandleFunc o (idp cfg fmt exp) = .ok [Eff.sendBackLogoutResponse (some resp) (some m)] ∧
      (m.Issuer.map (·.Text)).getD "" = o.m_GetEntityID (idp cfg fmt exp) ∧ m.Status.StatusCode.Value ≠ "" ∧
      (∀ req, decodedOf o = some req → m.InResponseTo = req.Id) := by
  have h := logout_handler_refines o cfg fmt exp henv
  obtain ⟨d, msg, hl, hiss, hst, hirt⟩ := C13_one_logout_response o (inOfOra o cfg fmt exp) (spOf_wf o cfg fmt exp hwf)
  rw [hl] at h
  rcases outOf_eq_some h with ⟨_, hp⟩ | ⟨e, hr, he⟩
  · cases hp
  obtain ⟨resp, m, rfl, rfl⟩ := outOfEff_reply he
  refine ⟨resp, m, hr, hiss, hst, fun req hreq => hirt req ?_ hreq⟩
  cases hfo : formOf o <;> simp [inOfOra, decodedOf, hfo] at hreq ⊢

/-- **C13 on the regenerated handler: Success only if valid, and every valid request succeeds.** -/
theorem C13_generated_success_iff (henv : EnvOK o cfg fmt exp) (hwf : StorageWF o cfg fmt exp) :
    (∃ resp m, IdentityProvider_logoutHandleFunc o (idp cfg fmt exp) = .ok [Eff.sendBackLogoutResponse (some resp) (some m)] ∧
        m.Status.StatusCode.Value = statusSuccess) ↔
      ∃ req sp, Valid o (inOfOra o cfg fmt exp) req sp := by
  have h := logout_handler_refines o cfg fmt exp henv
  rw [← C13_success_iff o (inOfOra o cfg fmt exp) (spOf_wf o cfg fmt exp hwf)]
  constructor
  · rintro ⟨resp, m, ht, hs⟩
    rw [ht] at h
    simp only [outOf, outOfEff, Option.some.injEq] at h
    exact ⟨_, _, h.symm, hs⟩
  · rintro ⟨d, msg, hl, hs⟩
    obtain ⟨resp, m, ht, _⟩ := C13_generated_one_response o cfg fmt exp henv hwf
    rw [ht, hl] at h
    simp only [outOf, outOfEff, Option.some.injEq, Logout.Out.reply.injEq] at h
    obtain ⟨_, rfl⟩ := h
    exact ⟨resp, m, ht, hs⟩

/-- **C13 on the regenerated handler: delivery.**  A Success response is delivered (posted with the unchanged
    RelayState) to the first SingleLogoutService location registered for the issuer and names it as Destination; with
    no registered location, and for every non-Success response, the LogoutResponse carries no consumer address (it is
    written into the HTTP body). -/
theorem C13_generated_delivery (henv : EnvOK o cfg fmt exp) (resp : provider_LogoutResponse) (m : samlp_LogoutResponseType)
    (ht : IdentityProvider_logoutHandleFunc o (idp cfg fmt exp) = .ok [Eff.sendBackLogoutResponse (some resp) (some m)]) :
    (m.Status.StatusCode.Value ≠ statusSuccess → resp.LogoutURL = "" ∧ m.Destination = "") ∧
    (m.Status.StatusCode.Value = statusSuccess → ∃ form sp md dsc, formOf o = some form ∧ spOf o cfg fmt exp = some sp ∧
        sp.Metadata = some md ∧ md.SPSSODescriptor = some dsc ∧ m.Destination = Logout.firstSlo dsc ∧
        resp.LogoutURL = Logout.firstSlo dsc ∧ (resp.LogoutURL ≠ "" → resp.RelayState = form.RelayState)) := by
  have h := logout_handler_refines o cfg fmt exp henv
  rw [ht] at h
  simp only [outOf, outOfEff, Option.some.injEq] at h
  obtain ⟨h1, h2⟩ := C13_delivery o (inOfOra o cfg fmt exp) _ _ h.symm
  constructor
  · intro hs
    obtain ⟨hd, hdest⟩ := h1 hs
    exact ⟨Logout.deliver_eq_xmlBody.mp hd, hdest⟩
  · intro hs
    obtain ⟨form, sp, md, dsc, hf, hsp, hmd, hdsc, hdest, hdel⟩ := h2 hs
    simp only [inOfOra, Option.map_eq_some_iff] at hf
    obtain ⟨f, hf, rfl⟩ := hf
    refine ⟨f, sp, md, dsc, hf, hsp, hmd, hdsc, hdest, ?_⟩
    rcases hdel with ⟨he, hd⟩ | ⟨_, hd⟩
    · have hu := Logout.deliver_eq_xmlBody.mp hd
      exact ⟨hu.trans he.symm, fun hne => absurd hu hne⟩
    · obtain ⟨_, hu, hr⟩ := Logout.deliver_eq_postForm.mp hd
      exact ⟨hu, fun _ => hr⟩

end C13

namespace C09
open Go Gen LogoutGen CallbackGen

/-- **C09 on the regenerated logout handler**: in any environment that honours `EnvOK` and `StorageWF`,
    `logoutHandleFunc` as regenerated from logout.go on this run does not panic (and writes exactly one reply) -/
theorem C09_generated_logout_handler (o : Ora) (cfg : provider_IdentityProviderConfig) (fmt : String) (exp : Int)
    (henv : EnvOK o cfg fmt exp) (hwf : C13.StorageWF o cfg fmt exp) :
    IdentityProvider_logoutHandleFunc o (idp cfg fmt exp) ≠ .panic := by
  obtain ⟨resp, m, h, _⟩ := C13.C13_generated_one_response o cfg fmt exp henv hwf
  rw [h]; simp

end C09
