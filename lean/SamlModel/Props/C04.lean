import SamlModel.Props.RedirectQuery
import SamlModel.Lib.C14n
import SamlModel.Model.Callback
import SamlModel.Model.AttrQuery
import SamlModel.Model.Metadata
import SamlModel.Model.FactsUtil
import SamlModel.Props.CallbackLemmas
import SamlModel.Props.AttrQueryLemmas
import SamlModel.Props.MetadataLemmas
/-!
  Props.C04 — every signature the IdP emits verifies under a conformant verifier (partial: RSA/SHA and the
  namespace handling of the two canonicalisers are sampled by the harness, not proved).

  1. Redirect binding, end to end on strings: the query `BuildRedirectQuery` (generated from redirect.go on every
     run) assembles for the URL carries, for an independent implementation of saml-bindings §3.4.4.1 working on the
     *raw* query, exactly the octets that were signed, the algorithm URI and the signature value — for all
     responses, RelayStates, algorithm URIs and signature bytes (`C04_redirect_query`, `C04_redirect_url`,
     `C04_redirect_url_with_query`).
  2. Coverage: no Success assertion leaves unsigned; the signature style matches the delivery
     (`C04_success_is_signed`, `C04_aq_signed`, `C04_metadata_signed_iff_configured`).
  3. Enveloped XML-DSig: the signer's digest input and a conformant verifier's coincide on a text node / attribute
     value exactly when it avoids the characters `& < > CR` / `& < " TAB LF CR` (`C04_c14n_text`, `C04_c14n_attr`);
     this is the input class of the open finding D16.
-/
namespace C04
open Go Gen Lib Lib.Url Consts Redirect

/-- what `createRedirectSignature` signs: `BuildRedirectQuery(resp, relay, alg, "")` (redirect.go) -/
def signedOctets (o : Ora) (resp relay alg : String) : Res String := BuildRedirectQuery o resp relay alg ""

/-- what `sendBackResponse` puts behind the consumer URL, the `Signature` field being `base64(sig)` as
    `createRedirectSignature` returns it -/
def sentQuery (o : Ora) (resp relay alg : String) (sig : List UInt8) : Res String :=
  BuildRedirectQuery o resp relay alg (b64encode sig)

/-- **Redirect binding**: for every response payload, RelayState, non-empty algorithm URI and non-empty signature
    value, an independent verifier working on the raw query of the URL sent recovers (i) exactly the octets the
    IdP signed, (ii) the algorithm URI, (iii) the signature bytes.  With `S.verify pk m (S.sign sk m) = true` for
    the signature scheme this is "the signature verifies". -/
theorem C04_redirect_query (o : Ora) (resp relay alg : String) (sig : List UInt8) (halg : alg ≠ "") (hsig : sig ≠ []) :
    ∃ signed sent, signedOctets o resp relay alg = .ok signed ∧ sentQuery o resp relay alg sig = .ok sent ∧
      verify sent.toList = some { octets := signed.toList, alg := alg.toUTF8.toList, sig := sig } := by
  refine ⟨_, _, Redirect.BuildRedirectQuery_eq o resp relay alg "", Redirect.BuildRedirectQuery_eq o resp relay alg (b64encode sig), ?_⟩
  simp only [String.toList_ofList]
  exact verify_sent resp relay alg sig halg hsig

/-- neither `?` nor `#` is in a key, among the joiners or in an escaped value -/
private theorem buildQ_no_delims {resp relay alg sig : String} {c : Char} (hc : c = '?' ∨ c = '#') :
    c ∉ buildQ resp relay alg sig := by
  have hE : ∀ v, c ∉ E v := fun v h => by
    rcases hc with rfl | rfl
    · exact (E_clean v _ h).2.2.1 rfl
    · exact (E_clean v _ h).2.2.2.1 rfl
  have hk : ∀ k ∈ [kSAMLResponse, kRelayState, kSignature, kSigAlg], c ≠ '&' ∧ c ≠ '=' ∧ c ∉ k := by
    rcases hc with rfl | rfl <;> decide
  have hp : ∀ k ∈ [kSAMLResponse, kRelayState, kSignature, kSigAlg], ∀ v, c ∉ part k v := by
    intro k hk' v
    unfold part
    split <;> simp [hk k hk', hE v]
  simp [buildQ, hk, hp, hE, (hk kSAMLResponse (by simp)).2.1]

/-- the query never contains a character that would end it or start a fragment, whatever the values -/
theorem C04_query_has_no_delimiter (o : Ora) (resp relay alg sig : String) :
    ∃ q, BuildRedirectQuery o resp relay alg sig = .ok q ∧ '?' ∉ q.toList ∧ '#' ∉ q.toList := by
  refine ⟨_, Redirect.BuildRedirectQuery_eq o resp relay alg sig, ?_⟩
  simp only [String.toList_ofList]
  exact ⟨buildQ_no_delims (.inl rfl), buildQ_no_delims (.inr rfl)⟩

private theorem urlQuery_redirectURL {acs q : List Char} (hq : '#' ∉ q) :
    urlQuery (redirectURL acs q) =
      rawQuery (redirectTarget acs ++ (if (redirectTarget acs).contains '?' then '&' else '?') :: q) := by
  unfold urlQuery redirectURL
  congr 1
  have hsep : ((if (redirectTarget acs).contains '?' then '&' else '?') != '#') = true := by split <;> decide
  have hq' : ∀ x ∈ q, (x != '#') = true := by
    intro x hx
    simp only [bne_iff_ne, ne_eq]
    intro e; exact hq (e ▸ hx)
  rw [List.append_assoc, List.takeWhile_append_of_pos (redirectTarget_noHash acs)]
  simp only [List.cons_append, List.takeWhile_cons, hsep, if_true]
  rw [List.takeWhile_append_of_pos hq']
  rcases redirectFragment_cases acs with h | ⟨cs, h⟩ <;> simp [h]

/-- **the URL actually sent** (consumer URL without a query of its own, with or without a fragment): the query a URL
    parser extracts from `sendBackResponse`'s redirect target verifies -/
theorem C04_redirect_url (acs : List Char) (resp relay alg : String) (sig : List UInt8)
    (hq : '?' ∉ redirectTarget acs) (halg : alg ≠ "") (hsig : sig ≠ []) :
    verify (urlQuery (redirectURL acs (buildQ resp relay alg (b64encode sig)))) =
      some { octets := buildQ resp relay alg "", alg := alg.toUTF8.toList, sig := sig } := by
  rw [urlQuery_redirectURL (buildQ_no_delims (.inr rfl))]
  have : (redirectTarget acs).contains '?' = false := by simpa using hq
  rw [this]
  simp only [Bool.false_eq_true, if_false]
  rw [rawQuery_append _ _ hq]
  exact verify_sent resp relay alg sig halg hsig

/-- **the URL sent** (registered consumer URL that already carries a query `pre`, none of whose parameters is one
    of the four message parameters): `acs?pre & query` verifies just the same -/
theorem C04_redirect_url_with_query (pre : List Char) (resp relay alg : String) (sig : List UInt8)
    (hpre : ∀ p ∈ params pre, p.1 ≠ kSAMLResponse ∧ p.1 ≠ kRelayState ∧ p.1 ≠ kSigAlg ∧ p.1 ≠ kSignature)
    (halg : alg ≠ "") (hsig : sig ≠ []) :
    verify (pre ++ '&' :: buildQ resp relay alg (b64encode sig)) =
      some { octets := buildQ resp relay alg "", alg := alg.toUTF8.toList, sig := sig } := by
  rw [← verify_sent resp relay alg sig halg hsig]
  unfold verify verifierOctets verifierAlg verifierSig rawParam
  rw [params_amp, lookup_append_of_absent _ _ _ fun p hp => (hpre p hp).1, lookup_append_of_absent _ _ _ fun p hp => (hpre p hp).2.1,
    lookup_append_of_absent _ _ _ fun p hp => (hpre p hp).2.2.1, lookup_append_of_absent _ _ _ fun p hp => (hpre p hp).2.2.2]

private theorem rawQuery_append' (base rest : List Char) (h : '?' ∉ base) : rawQuery (base ++ '?' :: rest) = rest :=
  rawQuery_append base rest h

/-- the same at URL level: consumer URL `base?pre[#frag]` -/
theorem C04_redirect_url_with_query' (acs base pre : List Char) (resp relay alg : String) (sig : List UInt8)
    (hacs : redirectTarget acs = base ++ '?' :: pre) (hb : '?' ∉ base)
    (hpre : ∀ p ∈ params pre, p.1 ≠ kSAMLResponse ∧ p.1 ≠ kRelayState ∧ p.1 ≠ kSigAlg ∧ p.1 ≠ kSignature)
    (halg : alg ≠ "") (hsig : sig ≠ []) :
    verify (urlQuery (redirectURL acs (buildQ resp relay alg (b64encode sig)))) =
      some { octets := buildQ resp relay alg "", alg := alg.toUTF8.toList, sig := sig } := by
  rw [urlQuery_redirectURL (buildQ_no_delims (.inr rfl))]
  have : (redirectTarget acs).contains '?' = true := by rw [hacs]; simp
  rw [this, hacs]
  simp only [if_true]
  have : base ++ '?' :: pre ++ '&' :: buildQ resp relay alg (b64encode sig) =
      base ++ '?' :: (pre ++ '&' :: buildQ resp relay alg (b64encode sig)) := by simp
  rw [this, rawQuery_append _ _ hb]
  exact C04_redirect_url_with_query pre resp relay alg sig hpre halg hsig

/-- non-vacuity: a consumer URL with a fragment -/
example : urlQuery (redirectURL "https://sp.example.com/acs#top".toList "SAMLResponse=x".toList) = "SAMLResponse=x".toList := by decide +kernel

/-- non-vacuity: a concrete response, RelayState with metacharacters, rsa-sha256 and a three-byte signature -/
example : verify (buildQ "fZJ+b/8=" "a&b=c d" "http://www.w3.org/2001/04/xmldsig-more#rsa-sha256" (b64encode [1, 2, 255])) =
    some { octets := buildQ "fZJ+b/8=" "a&b=c d" "http://www.w3.org/2001/04/xmldsig-more#rsa-sha256" "",
           alg := "http://www.w3.org/2001/04/xmldsig-more#rsa-sha256".toUTF8.toList, sig := [1, 2, 255] } :=
  verify_sent _ _ _ _ (by decide) (by decide)

/-- **callback**: a Success response is always signed; the signature travels in the query exactly when the reply
    is a redirect, and is enveloped in the assertion for the POST form and for delivery in the HTTP body -/
theorem C04_success_is_signed (o : Ora) (i : Callback.In) (d : Callback.Delivery) (m : Callback.Msg) (s : Callback.Sig)
    (h : Callback.callback o i = .reply d m s) (hs : m.status = statusSuccess)
    (hb : ∀ r, i.stored = some r → r.binding = postBinding ∨ r.binding = redirectBinding) :
    i.signOk = true ∧ m.assertion.isSome ∧
    ((∃ acs relay, d = .redirect acs relay) ∧ s = .query ∨ (¬ ∃ acs relay, d = .redirect acs relay) ∧ s = .enveloped) := by
  obtain ⟨rec, _, _, _, _, w, rfl, rfl, rfl⟩ := Callback.succeeded h hs
  refine ⟨w.hsign, rfl, ?_⟩
  -- the binding is one of the two, so `deliver` redirects exactly when `sigStyle` signs the query
  unfold Callback.deliver Callback.sigStyle
  by_cases hacs : rec.acs = ""
  · simp [hacs]
  · rcases hb rec w.hrec with hp | hr
    · simp [hacs, hp, redirect_ne_post.symm]
    · simp [hacs, hr, redirect_ne_post]

/-- **attribute query**: an answer (always a Success assertion in a SOAP envelope) exists only if the signing key was
    usable and `createPostSignature` succeeded — the model has no unsigned answer -/
theorem C04_aq_signed (o : Ora) (i : AttrQuery.In) (a : AttrQuery.Answer) (h : AttrQuery.attrQuery o i = .answer a) :
    i.signOk = true ∧ ∃ c k, getResponseCert o () = .ok (c, k, none) := by
  obtain ⟨_, _, _, _, _, _, w, _⟩ := AttrQuery.answered h
  exact ⟨w.hsign, w.hkey⟩

/-- **metadata**: the served document is signed exactly when signing is configured -/
theorem C04_metadata_signed_iff_configured (o : Ora) (c : Metadata.Cfg) (i : Metadata.In) (d : Metadata.Doc)
    (h : Metadata.metadata o c i = .doc d) : d.signed = c.signMetadata ∧ (c.signMetadata = true → i.metaKeyOk = true ∧ i.signOk = true) := by
  obtain ⟨_, _, _, hd, hs⟩ := Metadata.metadata_doc o c i d h
  subst hd
  exact ⟨rfl, hs⟩

open Lib.C14n

private theorem length_flatMap_ge (f : Char → List Char) (hf : ∀ c, 1 ≤ (f c).length) (s : List Char) :
    s.length ≤ (s.flatMap f).length := by
  induction s with
  | nil => simp
  | cons c cs ih => simp only [List.flatMap_cons, List.length_append, List.length_cons]; have := hf c; omega

private theorem flatMap_eq_self_iff (f : Char → List Char) (p : Char → Bool)
    (hf : ∀ c, if p c then 1 < (f c).length else f c = [c]) (s : List Char) :
    s.flatMap f = s ↔ s.all (fun c => !p c) = true := by
  have hge : ∀ c, 1 ≤ (f c).length := by
    intro c; have := hf c; split at this
    · omega
    · rw [this]; simp
  induction s with
  | nil => simp
  | cons c cs ih =>
    simp only [List.flatMap_cons, List.all_cons, Bool.and_eq_true, Bool.not_eq_true']
    constructor
    · intro h
      -- count lengths: |f c| + |cs.flatMap f| = 1 + |cs| and |cs| ≤ |cs.flatMap f|, so |f c| ≤ 1 and `p c` is false
      have hlen := congrArg List.length h
      simp only [List.length_append, List.length_cons] at hlen
      have h2 := length_flatMap_ge f hge cs
      have hc := hf c
      by_cases hp : p c = true
      · rw [if_pos hp] at hc; omega
      · rw [if_neg hp] at hc
        rw [hc] at h
        simp only [List.singleton_append, List.cons.injEq, true_and] at h
        exact ⟨by simpa using hp, ih.mp h⟩
    · rintro ⟨hp, hall⟩
      have hc := hf c
      rw [if_neg (by simp [hp])] at hc
      rw [hc, ih.mpr hall]; rfl

private theorem textEsc_spec (c : Char) : if textSpecial c then 1 < (textEsc c).length else textEsc c = [c] := by
  unfold textSpecial textEsc
  by_cases h1 : c = '&'
  · simp [h1]
  by_cases h2 : c = '<'
  · simp [h2]
  by_cases h3 : c = '>'
  · simp [h3]
  by_cases h4 : c = '\r'
  · simp [h4]
  simp [h1, h2, h3, h4]

private theorem attrEsc_spec (c : Char) : if attrSpecial c then 1 < (attrEsc c).length else attrEsc c = [c] := by
  unfold attrSpecial attrEsc
  by_cases h1 : c = '&'
  · simp [h1]
  by_cases h2 : c = '<'
  · simp [h2]
  by_cases h3 : c = '"'
  · simp [h3]
  by_cases h4 : c = '\t'
  · simp [h4]
  by_cases h5 : c = '\n'
  · simp [h5]
  by_cases h6 : c = '\r'
  · simp [h6]
  simp [h1, h2, h3, h4, h5, h6]

/-- **text nodes**: the verifier's canonical form equals what the signer digested iff none of `& < > CR` occurs -/
theorem C04_c14n_text (s : List Char) : c14nText s = signerText s ↔ textClean s = true :=
  flatMap_eq_self_iff textEsc textSpecial textEsc_spec s

/-- **attribute values**: likewise iff none of `& < " TAB LF CR` occurs -/
theorem C04_c14n_attr (s : List Char) : c14nAttr s = signerAttr s ↔ attrClean s = true :=
  flatMap_eq_self_iff attrEsc attrSpecial attrEsc_spec s

/-- the full statement for the enveloped signature ("whatever characters occur") is false: D16's witness -/
theorem C04_enveloped_full_false : ¬ ∀ s : List Char, c14nText s = signerText s := by
  intro h
  have := (C04_c14n_text ['a', '&', 'b']).mp (h _)
  revert this; decide

/-- quotes, apostrophes, TAB and LF in text, and `>` / apostrophes in attribute values, are harmless -/
example : textClean "a\"b'c\td\ne f".toList = true ∧ attrClean "a>b'c d".toList = true := by decide

/-- the hand-modelled signing glue is the source of today; the third-party signer and verifier are the pinned versions -/
theorem C04_source_current :
    FactsUtil.sameHashes ["signature.Create", "signature.GetSigner", "xml.Marshal"] = true ∧
    FactsUtil.lookup Gen.Facts.deps "github.com/amdonov/xmlsig" = "v0.1.0" ∧
    FactsUtil.lookup Gen.Facts.deps "github.com/russellhaering/goxmldsig" = "v1.4.0" :=
  ⟨by decide +kernel, by decide +kernel, by decide +kernel⟩

end C04
