import SamlModel.Model.Metadata
/-!
  Lemmas about the metadata model shared by C04, C09, C10 and C11: `metadata_cases` says once how
  a run of the metadata handler can end; `metadata_doc` is its reading for a served document.
-/
namespace Metadata
open Go Gen Consts

/-- the document the metadata handler serves, whenever it serves one -/
def docOf (o : Ora) (c : Cfg) (i : In) (cert : Lib.Bytes) : Doc :=
  { entityID := entityID o c i.issuer, wantAuthnRequestsSigned := c.wantSigned,
    ssoLocations := [(redirectBinding, abs o c.endpoints.singleSignOn i.issuer), (postBinding, abs o c.endpoints.singleSignOn i.issuer)],
    sloLocations := [(redirectBinding, abs o c.endpoints.singleLogout i.issuer), (postBinding, abs o c.endpoints.singleLogout i.issuer)],
    attributeLocations := [(soapBinding, abs o c.endpoints.attributeEp i.issuer)],
    keyDescriptors := [("signing", cert)] ++ (if c.encryptionAlgorithm != "" then [("encryption", cert)] else []),
    signed := c.signMetadata }

/-- the outcomes of `metadata`: a panic of the key getter, HTTP 500, or `docOf` the response certificate - signed, when
    signing is configured, after the metadata key and the signature were obtained -/
theorem metadata_cases (o : Ora) (c : Cfg) (i : In) :
    (metadata o c i = .panic ∧ getResponseCert o () = .panic) ∨ metadata o c i = .httpError 500 ∨
    ∃ cert key, getResponseCert o () = .ok (cert, key, none) ∧
      (c.signMetadata = true → i.metaKeyOk = true ∧ i.signOk = true) ∧ metadata o c i = .doc (docOf o c i cert) := by
  unfold metadata
  cases hk : getResponseCert o () with
  | panic => exact .inl ⟨rfl, rfl⟩
  | ok r =>
    obtain ⟨cert, key, kerr⟩ := r
    cases kerr with
    | some e => exact .inr (.inl rfl)
    | none =>
      cases hs : c.signMetadata with
      | false => exact .inr (.inr ⟨cert, key, rfl, by simp, by simp [docOf, hs]⟩)
      | true =>
        cases hm : i.metaKeyOk with
        | false => exact .inr (.inl (by simp))
        | true =>
          cases hg : i.signOk with
          | false => exact .inr (.inl (by simp))
          | true => exact .inr (.inr ⟨cert, key, rfl, fun _ => ⟨rfl, rfl⟩, by simp [docOf, hs]⟩)

theorem metadata_doc (o : Ora) (c : Cfg) (i : In) (d : Doc) (h : metadata o c i = .doc d) :
    ∃ cert key, getResponseCert o () = .ok (cert, key, none) ∧ d = docOf o c i cert ∧
      (c.signMetadata = true → i.metaKeyOk = true ∧ i.signOk = true) := by
  rcases metadata_cases o c i with ⟨hp, _⟩ | he | ⟨cert, key, hk, hs, hd⟩
  · cases hp.symm.trans h
  · cases he.symm.trans h
  · cases hd.symm.trans h; exact ⟨cert, key, hk, rfl, hs⟩

end Metadata
