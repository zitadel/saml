import SamlModel.Props.CallbackGen
import SamlModel.Props.AttrQueryChain
import SamlModel.Props.SsoChain
/-!
  Props.AttrQueryGen — `IdentityProvider.attributeQueryHandleFunc` and `makeAttributeQueryResponse` are *translated*
  (go2lean, chain handler: see Props.LogoutGen / ChainSem).

  The proof walks the chain once (Lemmas/ChainWalk.lean).  The model is its list of verdicts
  (`AttrQuery.attrQuery_eq_firstStop`); each step lemma says that one `Go.Step`, run on a frame of which an invariant
  holds (`Early`, `Known`, `Built`), does what one verdict says (`Does`); `follows_cons` chains them.
-/
namespace AttrQueryGen
open Go Gen Consts CallbackGen Builders

abbrev F := makeAttributeQueryResponse.Frame

abbrev push (s : F) (xs : List (Option saml_AttributeType)) : F := { s with providedAttrs := s.providedAttrs ++ xs }

/-- a loop that only appends to `providedAttrs`: `c x` is what the body appends for `x`; `I` is what the body has to know
    about the frame to take this form, and appending keeps it -/
theorem goFor_push {α ρ : Type} {I : F → Prop} (hI : ∀ s ys, I s → I (push s ys)) {body : α → F → Ctl F ρ}
    {c : α → List (Option saml_AttributeType)} (xs : List α) (hb : ∀ x ∈ xs, ∀ s, I s → body x s = .next (push s (c x)))
    (s : F) (hs : I s) : goFor xs s body = .next (push s (xs.flatMap c)) := by
  induction xs generalizing s with
  | nil => simp [push]
  | cons x xs ih =>
    rw [goFor_cons, hb x (by simp) s hs]
    dsimp only
    rw [ih (fun y hy => hb y (by simp [hy])) _ (hI s _ hs)]
    simp [push, List.append_assoc]

theorem filterMap_eq_flatMap {α β : Type} (f : α → Option β) (l : List α) : l.filterMap f = l.flatMap fun a => (f a).toList := by
  induction l with
  | nil => rfl
  | cons a l ih => cases h : f a <;> simp [h, ih]

/-- the hand model's view of the answer inside a generated response -/
def answerOf (lk : String) (r : samlp_ResponseType) : Option AttrQuery.Answer :=
  match r.Assertion.Subject, r.Assertion.Conditions, r.Assertion.AttributeStatement with
  | some subj, some cond, [as] =>
    match cond.AudienceRestriction with
    | [ar] =>
      match ar.Audience with
      | [aud] => some { inResponseTo := r.InResponseTo, issuer := (r.Issuer.map (·.Text)).getD "", audience := aud,
                        nameID := subj.NameID, attributes := as.Attribute, lookedUp := lk }
      | _ => none
    | _ => none
  | _, _, _ => none

def expected (reqID issuer entity : String) (attrs : provider_Attributes) (queried : List saml_AttributeType) (lk : String) : AttrQuery.Answer where
  inResponseTo := reqID
  issuer := issuer
  audience := entity
  nameID := some { Format := "urn:oasis:names:tc:SAML:1.1:nameid-format:emailAddress", Text := attrs.username }
  attributes := AttrQuery.filterAttrs (C03.specAttrs attrs) queried
  lookedUp := lk

/-- the response `makeAttributeQueryResponse` builds for a user record -/
def answerRec (o : Ora) (reqID issuer entity : String) (attrs : provider_Attributes) (queried : List saml_AttributeType)
    (fmt : String) (exp : Int) : samlp_ResponseType :=
  { responseRec (o.newID "makeAttributeQueryResponse" 0) reqID "" (o.m_Format o.now fmt) statusSuccess "" issuer with
    Assertion := assertionRec (o.newID "makeAssertion" 0) reqID "" "" (o.m_Format o.now fmt) (o.m_Format (o.now + exp) fmt) issuer
      (some { Format := "urn:oasis:names:tc:SAML:1.1:nameid-format:emailAddress", Text := attrs.username })
      (AttrQuery.filterAttrs (C03.specAttrs attrs) queried) entity false }

theorem makeAttributeQueryResponse_eq (o : Ora) (reqID issuer entity : String) (attrs : provider_Attributes)
    (queried : List saml_AttributeType) (fmt : String) (exp : Int) :
    makeAttributeQueryResponse o reqID issuer entity (some attrs) queried fmt exp =
      .ok (some (answerRec o reqID issuer entity attrs queried fmt exp)) := by
  cases queried with
  | nil =>
    -- nothing requested: the copy loop
    simp only [makeAttributeQueryResponse, makeAttributeQueryResponse.body, gosem, C03.getSAML_eq, List.isEmpty_nil]
    rw [goFor_push (I := fun _ => True) (c := fun x => [x]) (fun _ _ _ => trivial) _ (fun _ _ _ _ => rfl) _ trivial]
    simp only [gosem, C03.getNameID_eq, makeResponse_eq, makeAssertion_eq, push, List.flatMap_singleton', answerRec, statusSuccess,
      AttrQuery.filterAttrs, List.isEmpty_nil]
  | cons q0 qs =>
    have hne : ((q0 :: qs).isEmpty || (((q0 :: qs).length : Int) == 0)) = false := by simp; omega
    simp only [makeAttributeQueryResponse, makeAttributeQueryResponse.body, gosem, C03.getSAML_eq, hne]
    -- for every attribute of the user, which is there (`specAttrs_some`), the inner loop appends it once per hit
    rw [goFor_push (I := fun s => s.queriedAttrs = q0 :: qs) (c := fun a => AttrQuery.filterAttrs [a] (q0 :: qs))
      (fun _ _ h => h) _ ?_ _ rfl]
    · simp only [gosem, C03.getNameID_eq, makeResponse_eq, makeAssertion_eq, push, answerRec, statusSuccess]
      simp [AttrQuery.filterAttrs]
    · intro x hx s hs
      obtain ⟨av, rfl⟩ := Option.isSome_iff_exists.mp (C03.specAttrs_some attrs x hx)
      rw [hs, goFor_push (I := fun _ => True) (fun _ _ _ => trivial) _ ?_ _ trivial,
        ← filterMap_eq_flatMap fun q => if av.Name == q.Name && av.NameFormat == q.NameFormat then some (some av) else none]
      · simp [AttrQuery.filterAttrs]
      · intro q _ s _
        cases h : av.Name == q.Name && av.NameFormat == q.NameFormat <;> simp [Go.deref_some, h, push]

/-- **`makeAttributeQueryResponse` (generated from response.go)**: never panics on a user record and builds a Success
    response whose assertion carries the user's NameID, the audience, and exactly the model's filtered attribute list -/
theorem makeAttributeQueryResponse_refines (o : Ora) (reqID issuer entity : String) (attrs : provider_Attributes)
    (queried : List saml_AttributeType) (fmt : String) (exp : Int) (lk : String) :
    ∃ r, makeAttributeQueryResponse o reqID issuer entity (some attrs) queried fmt exp = .ok (some r) ∧
      answerOf lk r = some (expected reqID issuer entity attrs queried lk) ∧
      r.Status.StatusCode.Value = statusSuccess ∧ r.Assertion.Issuer.Text = issuer :=
  ⟨_, makeAttributeQueryResponse_eq .., rfl, rfl, rfl⟩

variable (o : Ora) (cfg : provider_IdentityProviderConfig) (fmt : String) (exp : Int)

def bodyOf : String := Lib.bytesToString o.readBody.1

/-- `xml.DecodeAttributeQuery(body)`: `none` = error, `some none` = an envelope without AttributeQuery -/
def decodedOf : Option (Option samlp_AttributeQueryType) :=
  if (o.f_DecodeAttributeQuery (bodyOf o)).2.isNone then some (o.f_DecodeAttributeQuery (bodyOf o)).1 else none

def queryOf : Option samlp_AttributeQueryType := (decodedOf o).join

def spOf : Option serviceprovider_ServiceProvider :=
  match queryOf o with
  | none => none
  | some q =>
    match q.Issuer with
    | none => none
    | some iss => if (o.m_GetServiceProvider (idp cfg fmt exp) iss.Text).2.isNone then (o.m_GetServiceProvider (idp cfg fmt exp) iss.Text).1 else none

/-- the login name the handler looks up -/
def lookedUpOf : String :=
  match queryOf o with
  | none => ""
  | some q => match q.Subject.NameID with
    | none => ""
    | some n => n.Text

def userOf : Option provider_Attributes :=
  if (o.m_SetUserinfoWithLoginName (lookedUpOf o) []).1.isNone then (o.m_SetUserinfoWithLoginName (lookedUpOf o) []).2 else none

/-- the response the handler hands to the signer -/
def builtOf : Option samlp_ResponseType :=
  match queryOf o with
  | none => none
  | some q =>
    (makeAttributeQueryResponse o q.Id (o.m_GetEntityID (idp cfg fmt exp)) (ServiceProvider_GetEntityID o (spOf o cfg fmt exp)).get
      (userOf o) q.Attribute fmt exp).get

def signErrOf : Err :=
  o.f_createPostSignature (builtOf o cfg fmt exp) (getResponseCert o ()).get.2.1 (getResponseCert o ()).get.1 cfg.SignatureAlgorithm

def inOfOra : AttrQuery.In :=
  { issuer := o.m_GetEntityID (idp cfg fmt exp),
    bodyErr := o.readBody.2.isSome,
    metaErr := (o.m_GetMetadata (idp cfg fmt exp)).2.2.isSome,
    aaMeta := (o.m_GetMetadata (idp cfg fmt exp)).2.1,
    decoded := decodedOf o,
    sp := spOf o cfg fmt exp,
    sigOk := (o.m_ValidateAttributeQuerySignature (spOf o cfg fmt exp) (bodyOf o)).isNone,
    userinfo := userOf o,
    signOk := (signErrOf o cfg fmt exp).isNone }

/-- what one effect means for the client.  (An envelope without a well-formed answer, or an effect a handler does not
    perform itself, is mapped to a value the model never produces - HTTP status 0 - so that the refinement theorem also
    says the regenerated handler never writes such a thing.) -/
def outOfEff (lk : String) : Eff → AttrQuery.Out
  | .httpError _ code => .httpError code.toNat
  | .xmlWriteMarshalled (some env) =>
    match env.Body.Response with
    | some r => (match answerOf lk r with | some a => .answer a | none => .httpError 0)
    | none => .httpError 0
  | _ => .httpError 0

/-- the reply of a handler run: one write - or the envelope followed by the (too late) 500 after a failed write -/
def outOf (lk : String) : Res (List Eff) → Option AttrQuery.Out
  | .panic => some .panic
  | .ok [e] => some (outOfEff lk e)
  | .ok [.xmlWriteMarshalled env, .httpError _ _] => some (outOfEff lk (.xmlWriteMarshalled env))
  | .ok _ => none

theorem outOf_eq_some {lk : String} {r : Res (List Eff)} {x : AttrQuery.Out} (h : outOf lk r = some x) :
    r = .panic ∧ x = .panic ∨ (∃ e, r = .ok [e] ∧ outOfEff lk e = x) ∨
      ∃ env m c, r = .ok [.xmlWriteMarshalled env, .httpError m c] ∧ outOfEff lk (.xmlWriteMarshalled env) = x := by
  unfold outOf at h
  split at h
  · exact .inl ⟨rfl, by simpa using h.symm⟩
  · exact .inr (.inl ⟨_, rfl, by simpa using h⟩)
  · exact .inr (.inr ⟨_, _, _, rfl, by simpa using h⟩)
  · cases h

theorem metaErr_eq : (inOfOra o cfg fmt exp).metaErr = (o.m_GetMetadata (idp cfg fmt exp)).2.2.isSome := rfl

/-- contract of the environment: a storage call that reports no error hands back a value.  (A registered service provider
    without metadata is not excluded here: the model panics there, as the code does.) -/
def EnvOK : Prop :=
  (∀ iss, (o.m_GetServiceProvider (idp cfg fmt exp) iss).2 = none → (o.m_GetServiceProvider (idp cfg fmt exp) iss).1.isSome) ∧
  (∀ n, (o.m_SetUserinfoWithLoginName n []).1 = none → (o.m_SetUserinfoWithLoginName n []).2.isSome)

abbrev H := IdentityProvider_attributeQueryHandleFunc
abbrev goal : Prop := outOf (lookedUpOf o) (H o (idp cfg fmt exp)) = some (AttrQuery.attrQuery o (inOfOra o cfg fmt exp))

open IdentityProvider_attributeQueryHandleFunc

/-- what the handler frame holds from the moment the query and its sender are known until the answer is built -/
structure Known (q : samlp_AttributeQueryType) (sp : serviceprovider_ServiceProvider) (s : Frame) : Prop where
  hp : s.p = idp cfg fmt exp
  heff : s.eff_ = []
  hreq : s.attrQueryRequest = bodyOf o
  hq : s.attrQuery = some q
  hsp : s.sp = some sp
  hmeta : s.metadata = (o.m_GetMetadata (idp cfg fmt exp)).2.1
  hattrs : s.attrs = some default

theorem Known.setErr {q sp} {s : Frame} (k : Known o cfg fmt exp q sp s) (e : Err) : Known o cfg fmt exp q sp { s with err := e } :=
  ⟨k.hp, k.heff, k.hreq, k.hq, k.hsp, k.hmeta, k.hattrs⟩

/-- the frame in which the chain starts -/
def s0 : Frame :=
  { p := idp cfg fmt exp, metadata := (o.m_GetMetadata (idp cfg fmt exp)).2.1, attrs := some default }

/-- what follows the envelope: nothing, or the (too late) 500 -/
def afterWrite : List Eff :=
  match o.writeErr "IdentityProvider_attributeQueryHandleFunc" 0 with
  | none => []
  | some e => [.httpError ("failed to send response: " ++ e) 500]

theorem handler_of_chain (h : (o.m_GetMetadata (idp cfg fmt exp)).2.2 = none) :
    H o (idp cfg fmt exp) =
      match runDirect (chain o) (s0 o cfg fmt exp) with
      | .panic => .panic
      | .ok (true, s) => .ok s.eff_
      | .ok (false, s) => .ok (s.eff_ ++ Eff.xmlWriteMarshalled (some { Body := { Response := s.response } }) :: afterWrite o) := by
  simp only [idp] at h
  simp only [H, IdentityProvider_attributeQueryHandleFunc, body, runChain_eq_runDirect, gosem, h, idp, s0]
  cases runDirect (chain o) _ with
  | panic => rfl
  | ok p =>
    obtain ⟨b, s⟩ := p
    cases b with
    | true => rfl
    | false =>
      simp only [gosem, afterWrite]
      cases o.writeErr "IdentityProvider_attributeQueryHandleFunc" 0 <;>
        simp only [gosem, List.append_assoc, List.cons_append, List.nil_append]

/-- what the handler has written when the chain ends this way (the three cases of `handler_of_chain`) -/
def endOf : Res (Bool × Frame) → Res (List Eff)
  | .panic => .panic
  | .ok (true, s) => .ok s.eff_
  | .ok (false, s) => .ok (s.eff_ ++ Eff.xmlWriteMarshalled (some { Body := { Response := s.response } }) :: afterWrite o)

/-- what a client sees of a run of the chain and of what the handler does after it -/
abbrev obsRun (x : Res (Bool × Frame)) : Option AttrQuery.Out := outOf (lookedUpOf o) (endOf o x)

abbrev Stops (x : Res (Bool × Frame)) (r : AttrQuery.Out) : Prop := Go.Stops (obsRun o) id x r

abbrev Does (st : Step Frame) (s : Frame) (K : Frame → Prop) (v : Verdict AttrQuery.Out) : Prop :=
  Go.Does (obsRun o) id st s K v

section
variable {o}

theorem stops_panic : Stops o .panic .panic := Go.stops_panic rfl

/-- a step failed: its callback wrote one HTTP 500 -/
theorem stops_fails {s' : Frame} {msg : String} (he : s'.eff_ = [Eff.httpError msg 500]) :
    Stops o (.ok (true, s')) AttrQuery.refused :=
  ⟨fun _ => nofun, by simp only [obsRun, endOf, he, outOf, outOfEff]; rfl⟩

end

/-- what the frame holds before the sender is known -/
structure Early (rq : String) (q : Option samlp_AttributeQueryType) (s : Frame) : Prop where
  hp : s.p = idp cfg fmt exp
  heff : s.eff_ = []
  hreq : s.attrQueryRequest = rq
  hq : s.attrQuery = q
  hmeta : s.metadata = (o.m_GetMetadata (idp cfg fmt exp)).2.1
  hattrs : s.attrs = some default

/-- what the frame holds once the answer is built -/
structure Built (r : samlp_ResponseType) (s : Frame) : Prop where
  hp : s.p = idp cfg fmt exp
  heff : s.eff_ = []
  hresp : s.response = some r

/-- the copy loop over the requested attributes -/
theorem copyQueried (xs : List saml_AttributeType) (s : Frame) :
    goFor xs s (fun x s => (Ctl.next { s with queriedAttrs := s.queriedAttrs ++ [x] } : Ctl Frame (Err × Frame))) =
      .next { s with queriedAttrs := s.queriedAttrs ++ xs } :=
  goFor_acc (fun _ _ => rfl) (fun xs s => { s with queriedAttrs := s.queriedAttrs ++ xs }) (by simp) (by simp) xs s

section steps
variable {o cfg fmt exp} {q : samlp_AttributeQueryType} {sp : serviceprovider_ServiceProvider} {s : Frame}

/-- step 1 (the body) -/
theorem step1 {rq : String} (k : Early o cfg fmt exp rq none s) :
    Does o (.withLogicStep (clo0 o) (clo1 o)) s (Early o cfg fmt exp (bodyOf o) none) (stopIf o.readBody.2.isSome AttrQuery.refused) := by
  cases h : o.readBody.2 with
  | some e =>
    simp only [gosem, clo0, clo1, h, k.heff]
    exact stops_fails rfl
  | none =>
    simp only [gosem, clo0, h]
    exact ⟨_, rfl, k.hp, k.heff, rfl, k.hq, k.hmeta, k.hattrs⟩

/-- step 2 (decoding): an envelope without an AttributeQuery fails like a decoding error -/
theorem step2 (k : Early o cfg fmt exp (bodyOf o) none s) :
    Does o (.withLogicStep (clo2 o) (clo3 o)) s
      (fun s' => ∃ q, o.f_DecodeAttributeQuery (bodyOf o) = (some q, none) ∧ Early o cfg fmt exp (bodyOf o) (some q) s')
      (stopIf ((o.f_DecodeAttributeQuery (bodyOf o)).2.isSome || (o.f_DecodeAttributeQuery (bodyOf o)).1.isNone) AttrQuery.refused) := by
  rcases hd : o.f_DecodeAttributeQuery (bodyOf o) with ⟨_ | q, _ | e⟩ <;>
    simp only [gosem, clo2, clo3, k.hreq, hd, k.heff]
  case some.none => exact ⟨_, rfl, q, rfl, k.hp, rfl, rfl, rfl, k.hmeta, k.hattrs⟩
  all_goals exact stops_fails rfl

/-- step 3 (the sender): the Issuer element and the storage lookup -/
theorem step3 (henv : EnvOK o cfg fmt exp) (k : Early o cfg fmt exp (bodyOf o) (some q) s) :
    Does o (.withLogicStep (clo4 o) (clo5 o)) s
      (fun s' => ∃ iss sp, q.Issuer = some iss ∧ o.m_GetServiceProvider (idp cfg fmt exp) iss.Text = (some sp, none) ∧
        Known o cfg fmt exp q sp s')
      (stopIf (match q.Issuer with
          | none => true
          | some iss => (o.m_GetServiceProvider (idp cfg fmt exp) iss.Text).2.isSome) AttrQuery.refused) := by
  cases hi : q.Issuer with
  | none =>
    simp only [gosem, clo4, clo5, k.hq, hi, k.heff]
    exact stops_fails rfl
  | some iss =>
    rcases hs : o.m_GetServiceProvider (idp cfg fmt exp) iss.Text with ⟨spo, _ | e⟩
    · obtain ⟨sp, rfl⟩ := value_of_noErr (henv.1 _) hs
      simp only [gosem, clo4, k.hq, hi, k.hp, hs]
      exact ⟨_, rfl, iss, sp, rfl, hs, rfl, k.heff, k.hreq, rfl, rfl, k.hmeta, k.hattrs⟩
    · simp only [gosem, clo4, clo5, k.hq, hi, k.hp, hs, k.heff]
      exact stops_fails rfl

/-- step 4 (KeyInfo certificate) -/
theorem step4 (k : Known o cfg fmt exp q sp s) :
    Does o (.withConditionalLogicStep (clo6 o) (clo7 o) (clo8 o)) s (Known o cfg fmt exp q sp)
      (stopOnErr .panic (Sso.condStep (certificateCheckNecessary o q.Signature sp.Metadata) (checkCertificate o q.Signature sp.Metadata))
        AttrQuery.refused) := by
  rw [Sso.stopOnErr_condStep]
  refine does_condLogic rfl ?_ (fun _ => k) ?_ (fun _ => k) fun _ _ => ?_
  · simp only [clo6, gosem, k.hq, k.hsp]
  · simp only [clo7, gosem, k.hq, k.hsp]
  · simp only [clo8, gosem, k.heff]; exact stops_fails rfl

/-- step 5 (signature of the query) -/
theorem step5 (k : Known o cfg fmt exp q sp s) :
    Does o (.withConditionalLogicStep (clo9 o) (clo10 o) (clo11 o)) s (Known o cfg fmt exp q sp)
      (bindV .panic (signaturePostProvided o q.Signature) fun provided =>
        stopIf (provided && !(o.m_ValidateAttributeQuerySignature (some sp) (bodyOf o)).isNone) AttrQuery.refused) := by
  -- the verdict as `does_condLogic` states it; the logic closure stores the verifier's error in `err`, which `Known` does not mention
  rw [bindV_congr (f' := fun c => bif c then stopOnErr .panic (.ok (o.m_ValidateAttributeQuerySignature (some sp) (bodyOf o)))
    AttrQuery.refused else .pass) fun c _ => by cases c <;> cases o.m_ValidateAttributeQuerySignature (some sp) (bodyOf o) <;> rfl]
  refine does_condLogic (s₁ := s) (s' := { s with err := o.m_ValidateAttributeQuerySignature (some sp) (bodyOf o) }) rfl ?_
    (fun _ => k) ?_ (fun _ => Known.setErr o cfg fmt exp k _) fun _ _ => ?_
  · simp only [clo9, gosem, k.hq]
  · simp only [clo10, gosem, k.hsp, k.hreq]; rfl
  · simp only [clo11, gosem, k.heff]; exact stops_fails rfl

/-- step 6 (Destination) -/
theorem step6 (k : Known o cfg fmt exp q sp s) :
    Does o (.withLogicStep (clo12 o) (clo13 o)) s (Known o cfg fmt exp q sp)
      (stopOnErr .panic (verifyRequestDestinationOfAttrQuery o (o.m_GetMetadata (idp cfg fmt exp)).2.1 (some q)) AttrQuery.refused) := by
  -- the closure stores the error in `err`, which `Known` does not mention
  refine does_logic (s' := { s with err := (verifyRequestDestinationOfAttrQuery o (o.m_GetMetadata (idp cfg fmt exp)).2.1 (some q)).get })
    rfl ?_ (fun _ => Known.setErr o cfg fmt exp k _) fun _ _ => ?_
  · simp only [clo12, gosem, k.hq, k.hmeta]
  · simp only [clo13, gosem, k.heff]; exact stops_fails rfl

/-- step 7 (user lookup and answer) -/
theorem step7 (k : Known o cfg fmt exp q sp s) (henv : EnvOK o cfg fmt exp) :
    Does o (.withLogicStep (clo14 o) (clo15 o)) s
      (fun s' => ∃ n attrs aud, q.Subject.NameID = some n ∧ o.m_SetUserinfoWithLoginName n.Text [] = (none, some attrs) ∧
        ServiceProvider_GetEntityID o (some sp) = .ok aud ∧
        Built cfg fmt exp (answerRec o q.Id (o.m_GetEntityID (idp cfg fmt exp)) aud attrs q.Attribute fmt exp) s')
      (match q.Subject.NameID with
        | none => .stop AttrQuery.refused
        | some n =>
          bif (o.m_SetUserinfoWithLoginName n.Text []).1.isSome then .stop AttrQuery.refused
          else bindV .panic (ServiceProvider_GetEntityID o (some sp)) fun _ => .pass) := by
  cases hn : q.Subject.NameID with
  | none =>
    simp only [gosem, clo14, clo15, k.hq, hn, k.heff]
    exact stops_fails rfl
  | some n =>
    rcases hu : o.m_SetUserinfoWithLoginName n.Text [] with ⟨_ | e, ua⟩
    · obtain ⟨attrs, rfl⟩ := value_of_noErr (henv.2 _) (congrArg Prod.swap hu)
      -- both branches of the `if` around the copy loop fall through to the same code, which `simp` therefore runs twice;
      -- the list is split only afterwards
      cases hg : ServiceProvider_GetEntityID o (some sp) <;>
        simp only [gosem, clo14, k.hq, hn, hu, k.hsp, hg, k.hp, copyQueried, makeAttributeQueryResponse_eq] <;>
        cases hA : q.Attribute <;> simp only [gosem, List.isEmpty_nil, List.isEmpty_cons]
      · exact ⟨_, rfl, n, attrs, _, rfl, hu, rfl, rfl, k.heff, rfl⟩
      · exact ⟨_, rfl, n, attrs, _, rfl, hu, rfl, rfl, k.heff, rfl⟩
      all_goals exact stops_panic
    · simp only [gosem, clo14, clo15, k.hq, hn, hu, k.heff]
      exact stops_fails rfl

/-- step 8 (enveloped signature) -/
theorem step8 {r : samlp_ResponseType} (k : Built cfg fmt exp r s) :
    Does o (.withLogicStep (clo16 o) (clo17 o)) s (Built cfg fmt exp r)
      (bindV .panic (getResponseCert o ()) fun t =>
        stopIf (t.2.2.isSome || !(o.f_createPostSignature (some r) t.2.1 t.1 cfg.SignatureAlgorithm).isNone) AttrQuery.refused) := by
  rcases hk : getResponseCert o () with ⟨cert, key, _ | e⟩ | _
  · cases hs : o.f_createPostSignature (some r) key cert cfg.SignatureAlgorithm <;>
      simp only [gosem, clo16, clo17, k.hp, hk, k.hresp, hs, k.heff]
    · exact ⟨_, rfl, rfl, rfl, rfl⟩
    · exact stops_fails rfl
  · simp only [gosem, clo16, clo17, k.hp, hk, k.heff]
    exact stops_fails rfl
  · simp only [gosem, clo16, k.hp, hk]
    exact stops_panic

end steps

/-- under `EnvOK` the storage's error alone says whether the model sees a registered service provider -/
theorem spOf_isNone {o cfg fmt exp} (henv : EnvOK o cfg fmt exp) {q : samlp_AttributeQueryType} (hq : queryOf o = some q) :
    (q.Issuer.isNone || (spOf o cfg fmt exp).isNone) =
      match q.Issuer with
      | none => true
      | some iss => (o.m_GetServiceProvider (idp cfg fmt exp) iss.Text).2.isSome := by
  unfold spOf
  simp only [hq]
  cases q.Issuer with
  | none => rfl
  | some iss => exact valueOf_isNone (henv.1 iss.Text)

/-- … and its error alone whether the model sees the user the query is about -/
theorem userOf_isNone {o cfg fmt exp} (henv : EnvOK o cfg fmt exp) {q : samlp_AttributeQueryType} (hq : queryOf o = some q)
    {n : saml_NameIDType} (hn : q.Subject.NameID = some n) :
    (userOf o).isNone = (o.m_SetUserinfoWithLoginName n.Text []).1.isSome := by
  have hlk : lookedUpOf o = n.Text := by simp [lookedUpOf, hq, hn]
  unfold userOf
  rw [hlk]
  exact valueOf_isNone (r := (_, _)) (henv.2 n.Text)

/-- **the regenerated attribute-query handler refines the attribute-query model.**  For every behaviour of the
    environment that honours `EnvOK`, the handler regenerated from attribute_query.go on this run panics where the model
    panics, answers HTTP 500 where the model does, and otherwise writes one SOAP envelope whose response carries exactly
    the model's answer (`AttrQuery.attrQuery` on the input read off from the same oracle answers). -/
theorem attrquery_handler_refines (henv : EnvOK o cfg fmt exp) : goal o cfg fmt exp := by
  unfold goal
  rw [AttrQuery.attrQuery_eq_firstStop]
  cases h : (o.m_GetMetadata (idp cfg fmt exp)).2.2 with
  | some e =>
    rw [AttrQuery.verdicts, metaErr_eq, h]
    simp only [idp] at h
    simp only [H, IdentityProvider_attributeQueryHandleFunc, body, gosem, h, idp]
    rfl
  | none =>
    rw [handler_of_chain o cfg fmt exp h, AttrQuery.verdicts, firstStop_stopIf, metaErr_eq, h]
    have hdec : (inOfOra o cfg fmt exp).decoded = decodedOf o := rfl
    have hsp : (inOfOra o cfg fmt exp).sp = spOf o cfg fmt exp := rfl
    have huser : (inOfOra o cfg fmt exp).userinfo = userOf o := rfl
    simp only [AttrQuery.chainVerdicts]
    refine follows_cons (step1 (rq := "") ⟨rfl, rfl, rfl, rfl, rfl, rfl⟩) fun _ s1 k1 => ?_
    refine follows_cons' (step2 k1)
      (by rw [hdec, decodedOf]; rcases o.f_DecodeAttributeQuery (bodyOf o) with ⟨_ | _, _ | _⟩ <;> rfl) fun _ s2 ⟨q, hd, k2⟩ => ?_
    have hqo : queryOf o = some q := by simp [queryOf, decodedOf, hd]
    have hQ : AttrQuery.queryV (inOfOra o cfg fmt exp) = q := by simp [AttrQuery.queryV, hdec, decodedOf, hd]
    simp only [hQ]
    refine follows_cons' (step3 henv k2) (by rw [hsp, spOf_isNone henv hqo])
      fun _ s3 ⟨iss, sp, hiss, hgs, k3⟩ => ?_
    have hso : spOf o cfg fmt exp = some sp := by simp [spOf, hqo, hiss, hgs]
    have hS : AttrQuery.spV (inOfOra o cfg fmt exp) = sp := by simp [AttrQuery.spV, hsp, hso]
    have hsig : (inOfOra o cfg fmt exp).sigOk = (o.m_ValidateAttributeQuerySignature (some sp) (bodyOf o)).isNone := by
      simp [inOfOra, hso]
    simp only [hS, hsig]
    refine follows_cons (step4 k3) fun _ s4 k4 => ?_
    refine follows_cons (step5 k4) fun _ s5 k5 => ?_
    refine follows_cons (step6 k5) fun _ s6 k6 => ?_
    refine follows_cons' (step7 k6 henv) ?_ fun _ s7 ⟨n, attrs, aud, hn, hu, hg, k7⟩ => ?_
    · cases hn' : q.Subject.NameID with
      | none => rfl
      | some n' =>
        rw [huser, userOf_isNone henv hqo hn']
        cases hb : (o.m_SetUserinfoWithLoginName n'.Text []).1.isSome <;>
          simp only [hb, gosem, C03.getSAML_eq, C03.getNameID_eq, bindV]
    have hlk : lookedUpOf o = n.Text := by simp [lookedUpOf, hqo, hn]
    have huo : userOf o = some attrs := by simp [userOf, hlk, hu]
    have hU : AttrQuery.userV (inOfOra o cfg fmt exp) = attrs := by simp [AttrQuery.userV, huser, huo]
    have hbo : builtOf o cfg fmt exp = some (answerRec o q.Id (o.m_GetEntityID (idp cfg fmt exp)) aud attrs q.Attribute fmt exp) := by
      simp [builtOf, hqo, hso, hg, huo, makeAttributeQueryResponse_eq]
    refine follows_cons' (step8 k7) (bindV_congr fun t ht => ?_) fun _ s8 ⟨hp8, heff8, hresp8⟩ => ?_
    · have : (inOfOra o cfg fmt exp).signOk =
          (o.f_createPostSignature (some (answerRec o q.Id (o.m_GetEntityID (idp cfg fmt exp)) aud attrs q.Attribute fmt exp))
            t.2.1 t.1 cfg.SignatureAlgorithm).isNone := by
        simp [inOfOra, signErrOf, hbo, ht]
      rw [this]
    -- all eight passed: the envelope carries the model's answer
    · show outOf (lookedUpOf o) (endOf o (.ok (false, s8))) = _
      simp only [endOf, heff8, hresp8, List.nil_append, afterWrite, firstStop, id, AttrQuery.replied, hQ, hS, hU, hg, hn, hlk,
        C03.getSAML_eq, C03.getNameID_eq, gosem]
      cases o.writeErr "IdentityProvider_attributeQueryHandleFunc" 0 <;> rfl

end AttrQueryGen
