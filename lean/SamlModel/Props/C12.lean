import SamlModel.Model.AttrQuery
import SamlModel.Props.FnLemmas
import SamlModel.Props.C03
import SamlModel.Props.AttrQueryLemmas
import SamlModel.Lemmas.GoSem
/-!
  C12 — Attribute queries disclose only requested data, to registered requesters.
-/
namespace C12
open Go Gen AttrQuery FnLemmas Consts

/-- what `verifyRequestDestinationOfAttrQuery` returns: nothing to compare, a nil dereference when there is no
    attribute-authority descriptor to compare with, or the outcome of the search -/
theorem destAq_eq (o : Ora) (aa : Option md_AttributeAuthorityDescriptorType) (req : samlp_AttributeQueryType) :
    verifyRequestDestinationOfAttrQuery o aa (some req) =
      if req.Destination = "" then .ok none else
      match aa with
      | none => .panic
      | some md =>
        .ok (if md.AttributeService.any (fun e => req.Destination == e.Location) then none
             else some "destination of request is unknown") := by
  cases aa with
  | none =>
    simp only [verifyRequestDestinationOfAttrQuery, verifyRequestDestinationOfAttrQuery.body, gosem]
    simp only [Bool.cond_eq_ite]
    by_cases hd : req.Destination = "" <;> simp [hd, gosem]
  | some md =>
    simp only [verifyRequestDestinationOfAttrQuery, verifyRequestDestinationOfAttrQuery.body, gosem]
    rw [goFor_brk_any (I := fun s => s.request = some req) (p := fun e => req.Destination == e.Location)
      (f := fun s => { s with foundEndpoint := true }) (by intro x s hs; simp only [hs, gosem]) _ _ rfl]
    simp only [Bool.cond_eq_ite]
    by_cases hd : req.Destination = ""
    · simp [hd]
    · cases md.AttributeService.any (fun e => req.Destination == e.Location) <;> simp [hd, gosem]

/-- Destination absent, or a location the IdP advertises for the attribute service -/
def DestOK (aa : Option md_AttributeAuthorityDescriptorType) (q : samlp_AttributeQueryType) : Prop :=
  q.Destination = "" ∨ ∃ md e, aa = some md ∧ e ∈ md.AttributeService ∧ q.Destination = e.Location

theorem destAq_iff (o : Ora) (aa : Option md_AttributeAuthorityDescriptorType) (q : samlp_AttributeQueryType) :
    verifyRequestDestinationOfAttrQuery o aa (some q) = .ok none ↔ DestOK aa q := by
  rw [destAq_eq]
  unfold DestOK
  by_cases hd : q.Destination = ""
  · simp [hd]
  · cases aa <;> simp [hd]

theorem destAq_ok (o : Ora) (aa : Option md_AttributeAuthorityDescriptorType) (q : samlp_AttributeQueryType)
    (h : verifyRequestDestinationOfAttrQuery o aa (some q) = .ok none) : DestOK aa q :=
  (destAq_iff o aa q).mp h

/-- **filter specification (set reading).** An attribute is in the answer iff it is one of the user's
    attributes and either nothing was requested or some requested attribute has the same Name and NameFormat. -/
theorem C12_filter_spec (attrs : List (Option saml_AttributeType)) (queried : List saml_AttributeType) (x : Option saml_AttributeType) :
    x ∈ filterAttrs attrs queried ↔
      x ∈ attrs ∧ (queried = [] ∨ ∃ av q, x = some av ∧ q ∈ queried ∧ av.Name = q.Name ∧ av.NameFormat = q.NameFormat) := by
  unfold filterAttrs
  cases queried with
  | nil => simp
  | cons q0 qs =>
    simp only [List.isEmpty_cons, Bool.false_eq_true, if_false, List.mem_flatMap, List.mem_filterMap]
    constructor
    · rintro ⟨a, ha, q, hq, hm⟩
      cases a with
      | none => simp at hm
      | some av =>
        dsimp only at hm
        by_cases hc : (av.Name == q.Name && av.NameFormat == q.NameFormat) = true
        · rw [if_pos hc] at hm; cases hm
          exact ⟨ha, Or.inr ⟨av, q, rfl, hq, by simpa using hc⟩⟩
        · rw [if_neg hc] at hm; cases hm
    · rintro ⟨hx, hq⟩
      rcases hq with hq | ⟨av, q, rfl, hq, h1, h2⟩
      · cases hq
      · exact ⟨some av, hx, q, hq, by simp [h1, h2]⟩

/-- **C12 (guard).** An attribute query is answered with user data only if it decoded, its Issuer is present
    and storage knows it, a signature value it carries verified, and its Destination (when present) is an
    advertised attribute-service location. -/
theorem C12_guard (o : Ora) (i : In) (a : Answer) (h : attrQuery o i = .answer a) :
    ∃ q sp, i.decoded = some (some q) ∧ q.Issuer.isSome ∧ i.sp = some sp ∧
      (embProvided q.Signature = true → i.sigOk = true) ∧ DestOK i.aaMeta q := by
  obtain ⟨q, iss, subj, sp, m, attrs, w, _⟩ := answered h
  exact ⟨q, sp, w.hdec, by simp [w.hiss], w.hsp, w.h5, destAq_ok o i.aaMeta q w.h6⟩

/-- **C12 (content).** The answer describes exactly the user storage resolved for the queried subject, echoes
    the query ID, names the requester as audience, is issued by the IdP entity ID and contains the user's
    attributes filtered by the requested (Name, NameFormat) pairs. -/
theorem C12_content (o : Ora) (i : In) (a : Answer) (h : attrQuery o i = .answer a) :
    ∃ q sp subj attrs m, i.decoded = some (some q) ∧ i.sp = some sp ∧ q.Subject.NameID = some subj ∧ i.userinfo = some attrs ∧
      sp.Metadata = some m ∧
      a.lookedUp = subj.Text ∧ a.inResponseTo = q.Id ∧ a.audience = m.EntityID ∧ a.issuer = i.issuer ∧
      a.nameID = some { Format := "urn:oasis:names:tc:SAML:1.1:nameid-format:emailAddress", Text := attrs.username } ∧
      a.attributes = filterAttrs (C03.specAttrs attrs) q.Attribute ∧ i.signOk = true := by
  obtain ⟨q, iss, subj, sp, m, attrs, w, rfl⟩ := answered h
  exact ⟨q, sp, subj, attrs, m, w.hdec, w.hsp, w.hsubj, w.hui, w.hm, rfl, rfl, rfl, rfl, rfl, rfl, w.hsign⟩

/-- what is fingerprinted for C12: the constants and the functions that are oracles of the translated handler.  The
    handler and `makeAttributeQueryResponse` are translated on every run and tied by proof
    (`AttrQueryGen.attrquery_handler_refines`, `makeAttributeQueryResponse_refines`, Props/AttrQueryProps.lean) -/
theorem C12_source_current : Consts.current = true ∧
    FactsUtil.sameHashes ["xml.WriteXMLMarshalled", "serviceprovider.ServiceProvider.ValidatePostSignature"] = true := ⟨Consts.current_true, by decide +kernel⟩

/-- non-vacuity -/
def ora0 : Ora where
  now := 0
  timeParse := fun _ _ => none
  m_ValidateRedirectSignature := fun _ _ _ _ _ => none
  m_ValidatePostSignature := fun _ _ => none
  urlParse := fun _ => none
  inflate := fun _ => {}
  m_GetResponseSigningKey := (some { Certificate := [1], Key := some {} }, none)
def sp0 : serviceprovider_ServiceProvider := { ID := "app", Metadata := some { EntityID := "sp", SPSSODescriptor := some {} } }
def reqAttr0 : saml_AttributeType := { Name := "Email", NameFormat := C03.basicFormat }
def subj0 : saml_SubjectType := { NameID := some { Text := "alice" } }
def q0 : samlp_AttributeQueryType := { Id := "q1", Issuer := some { Text := "sp" }, Subject := subj0, Attribute := [reqAttr0] }
def in0 : In := { issuer := "idp", decoded := some (some q0), sp := some sp0, aaMeta := some {}, userinfo := some { email := "a@x", username := "alice", surname := "S" } }
def ans0 : Answer where
  inResponseTo := "q1"
  issuer := "idp"
  audience := "sp"
  nameID := some { Format := "urn:oasis:names:tc:SAML:1.1:nameid-format:emailAddress", Text := "alice" }
  attributes := [some { Name := "Email", NameFormat := C03.basicFormat, AttributeValue := ["a@x"] }]
  lookedUp := "alice"
example : attrQuery ora0 in0 = .answer ans0 := by decide +kernel
example : attrQuery ora0 { in0 with decoded := some (some { q0 with Destination := "https://evil/attr" }) } = .httpError 500 := by decide +kernel

end C12
