import SamlModel.Lemmas.Builders
import SamlModel.Model.Logout
import SamlModel.Props.FnLemmas
import SamlModel.Props.LogoutLemmas
import SamlModel.Props.Current
/-!
  C13 — Logout responses go to the registered party and succeed only if valid.
-/
namespace C13
open Go Gen Logout FnLemmas Consts

/-- the registered metadata has an SPSSODescriptor: `NewServiceProvider` hands out no other (`NewSpGen.newServiceProvider_wf`) -/
def SpWF (sp : serviceprovider_ServiceProvider) : Prop := ∃ m d, sp.Metadata = some m ∧ m.SPSSODescriptor = some d

/-- what makes a logout request valid -/
def Valid (o : Ora) (i : In) (req : samlp_LogoutRequestType) (sp : serviceprovider_ServiceProvider) : Prop :=
  i.form.isSome ∧ i.decoded = some req ∧ req.Issuer.isSome ∧ i.sp = some sp ∧
  TimeOK o i.timeFormat req.IssueInstant req.NotOnOrAfter

/-- **C13 (exactly one LogoutResponse; Issuer; InResponseTo).** Unless the registered metadata is malformed
    (no panic otherwise), every reply is a single LogoutResponse issued by the IdP entity ID; it echoes the
    request ID whenever the request decoded. -/
theorem C13_one_logout_response (o : Ora) (i : In) (hsp : ∀ sp, i.sp = some sp → SpWF sp) :
    ∃ d m, logout o i = .reply d m ∧ m.issuer = i.issuer ∧ m.status ≠ "" ∧
      (∀ req, i.form.isSome → i.decoded = some req → m.inResponseTo = req.Id) := by
  have he := logout_ends o i
  generalize logout o i = r at he ⊢
  cases he with
  | denied hid _ => exact ⟨_, _, rfl, rfl, by simp [mkMsg, statusRequestDenied], hid⟩
  | panic w hno => exact absurd (hsp _ w.hsp) hno
  | success w =>
    refine ⟨_, _, rfl, rfl, by simp [mkMsg, statusSuccess], fun r _ hd => ?_⟩
    rw [w.hdec] at hd; cases hd; rfl

/-- **C13 (Success only if valid, and every valid request succeeds).** -/
theorem C13_success_iff (o : Ora) (i : In) (hsp : ∀ sp, i.sp = some sp → SpWF sp) :
    (∃ d m, logout o i = .reply d m ∧ m.status = statusSuccess) ↔ ∃ req sp, Valid o i req sp := by
  have he := logout_ends o i
  generalize logout o i = r at he ⊢
  cases he with
  | denied _ hno =>
    constructor
    · rintro ⟨d, m, hr, hs⟩
      cases hr
      exact absurd hs requestDenied_ne_success
    · rintro ⟨req, sp, hf, hd, hi, hs, ht⟩
      obtain ⟨f, hf⟩ := Option.isSome_iff_exists.mp hf
      exact absurd ⟨f, req, sp, hf, hd, ht, hi, hs⟩ hno
  | panic w hno => exact absurd (hsp _ w.hsp) hno
  | success w => exact ⟨fun _ => ⟨_, _, by simp [w.hform], w.hdec, w.hiss, w.hsp, w.htime⟩, fun _ => ⟨_, _, rfl, rfl⟩⟩

/-- **C13 (delivery).** A Success response is posted, with the unchanged RelayState, to the first
    SingleLogoutService location registered for the issuer, and its Destination is that location; with no
    registered location it is returned in the HTTP body.  Every non-Success response is returned in the body. -/
theorem C13_delivery (o : Ora) (i : In) (d : Delivery) (m : Msg) (h : logout o i = .reply d m) :
    (m.status ≠ statusSuccess → d = .xmlBody ∧ m.destination = "") ∧
    (m.status = statusSuccess → ∃ form sp md dsc, i.form = some form ∧ i.sp = some sp ∧ sp.Metadata = some md ∧
        md.SPSSODescriptor = some dsc ∧ m.destination = firstSlo dsc ∧
        ((firstSlo dsc = "" ∧ d = .xmlBody) ∨ (firstSlo dsc ≠ "" ∧ d = .postForm (firstSlo dsc) form.RelayState))) := by
  have he := logout_ends o i
  rw [h] at he
  cases he with
  | denied => exact ⟨fun _ => ⟨rfl, rfl⟩, fun hs => absurd hs requestDenied_ne_success⟩
  | @success form _ sp md dsc w hm hdsc =>
    refine ⟨fun hns => absurd rfl hns, fun _ => ⟨form, sp, md, dsc, w.hform, w.hsp, hm, hdsc, rfl, ?_⟩⟩
    by_cases hu : firstSlo dsc = ""
    · left; simp [deliver, hu]
    · right; simp [deliver, hu]

/-- the first registered location is meant literally: document order -/
theorem C13_first_location (d : md_SPSSODescriptorType) (e : md_EndpointType) (rest : List md_EndpointType)
    (h : d.SingleLogoutService = e :: rest) : firstSlo d = e.Location := by
  simp [firstSlo, h]

/-- **the builder is the generated one**: `makeLogoutResponse` as regenerated from logout_response.go never panics and
    builds exactly the message of the logout model -/
theorem C13_builder_refines (o : Ora) (i : Logout.In) (reqID url status message : String)
    (hid : i.newID = o.newID "makeLogoutResponse" 0) :
    ∃ r, Gen.makeLogoutResponse o reqID url i.issueInstant status message ((Gen.getIssuer o i.issuer).get) = .ok (some r) ∧
      Builders.logoutMsgOf r = Logout.mkMsg i reqID url status ∧ r.Version = "2.0" :=
  ⟨_, Builders.makeLogoutResponse_eq ..,
    by simp [Builders.logoutMsgOf, Builders.logoutResponseRec, Logout.mkMsg, Builders.getIssuer_eq, hid], rfl⟩

/-- the literals of the logout model are the Go constants of today's source.  The decoder is an oracle of the translated
    handler; the handler, its form reader, the two builders and `sendBackLogoutResponse` are translated on every run and
    tied by proof (`LogoutGen.logout_handler_refines`, `LogoutGen.sloSendBack_renders`, Props/LogoutProps.lean) -/
theorem C13_source_current : Consts.current = true := Consts.current_true

/-- non-vacuity -/
def ora0 : Ora where
  now := 100
  timeParse := fun _ v => if v == "t50" then some 50 else if v == "t200" then some 200 else none
  m_ValidateRedirectSignature := fun _ _ _ _ _ => none
  m_ValidatePostSignature := fun _ _ => none
  urlParse := fun _ => none
  inflate := fun _ => {}
  m_GetResponseSigningKey := (none, none)
def dsc0 : md_SPSSODescriptorType := { SingleLogoutService := [{ Location := "https://sp/slo1" }, { Location := "https://sp/slo2" }] }
def sp0 : serviceprovider_ServiceProvider := { ID := "app", Metadata := some { EntityID := "sp", SPSSODescriptor := some dsc0 } }
def in0 (ii : String) : In :=
  { issuer := "idp", form := some { LogoutRequest := "x", RelayState := "rs" },
    decoded := some { Id := "lr1", IssueInstant := ii, Issuer := some { Text := "sp" } }, sp := some sp0, newID := "n" }
example : logout ora0 (in0 "t50") = .reply (.postForm "https://sp/slo1" "rs")
    { id := "n", inResponseTo := "lr1", destination := "https://sp/slo1", issueInstant := "", status := statusSuccess, issuer := "idp" } := by decide +kernel
example : logout ora0 (in0 "t200") = .reply .xmlBody
    { id := "n", inResponseTo := "lr1", destination := "", issueInstant := "", status := statusRequestDenied, issuer := "idp" } := by decide +kernel

end C13
