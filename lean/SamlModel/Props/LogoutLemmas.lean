import SamlModel.Model.Logout
import SamlModel.Props.FnLemmas
/-!
  Lemmas about the logout model shared by C13 and, through it, C02, C09, C10: `logout_ends` says once how a run can
  end and what was known then; the property files read their statements off it.
-/
namespace Logout
open Go Gen FnLemmas Consts

structure Accepted (o : Ora) (i : In) (form : LForm) (req : samlp_LogoutRequestType) (sp : serviceprovider_ServiceProvider) : Prop where
  hform : i.form = some form
  hdec : i.decoded = some req
  htime : TimeOK o i.timeFormat req.IssueInstant req.NotOnOrAfter
  hiss : req.Issuer.isSome
  hsp : i.sp = some sp

/-- how a run of `logout` ends: a request that is not accepted is denied in the HTTP body; an accepted one is answered
    with Success at the first registered logout location, and panics if the registered metadata has no SPSSODescriptor -/
inductive Ends (o : Ora) (i : In) : Out → Prop
  | denied {id : String} : (∀ req, i.form.isSome → i.decoded = some req → id = req.Id) →
      (¬ ∃ form req sp, Accepted o i form req sp) →
      Ends o i (.reply .xmlBody (mkMsg i id "" statusRequestDenied))
  | panic {form req sp} : Accepted o i form req sp → (¬ ∃ md d, sp.Metadata = some md ∧ md.SPSSODescriptor = some d) →
      Ends o i .panic
  | success {form req sp md d} : Accepted o i form req sp → sp.Metadata = some md → md.SPSSODescriptor = some d →
      Ends o i (.reply (deliver (firstSlo d) form.RelayState) (mkMsg i req.Id (firstSlo d) statusSuccess))

theorem logout_ends (o : Ora) (i : In) : Ends o i (logout o i) := by
  unfold logout
  cases hf : i.form with
  | none => exact .denied (fun _ h => by simp [hf] at h) fun ⟨_, _, _, w⟩ => nomatch hf.symm.trans w.hform
  | some form =>
  cases hd : i.decoded with
  | none => exact .denied (fun _ _ h => by simp [hd] at h) fun ⟨_, _, _, w⟩ => nomatch hd.symm.trans w.hdec
  | some req =>
  have hid : ∀ r, i.form.isSome → i.decoded = some r → req.Id = r.Id := fun r _ h => by rw [hd] at h; cases h; rfl
  simp only [timeCheck_eq]
  cases ht : timeSpec o i.timeFormat req.IssueInstant req.NotOnOrAfter with
  | some e =>
    refine .denied hid fun ⟨_, _, _, w⟩ => ?_
    cases hd.symm.trans w.hdec
    cases ht.symm.trans (timeSpec_none.mpr w.htime)
  | none =>
  have htime : TimeOK o i.timeFormat req.IssueInstant req.NotOnOrAfter := timeSpec_none.mp ht
  cases hi : req.Issuer with
  | none =>
    refine .denied hid fun ⟨_, _, _, w⟩ => ?_
    cases hd.symm.trans w.hdec
    exact nomatch hi ▸ w.hiss
  | some iss =>
  cases hs : i.sp with
  | none => exact .denied hid fun ⟨_, _, _, w⟩ => nomatch hs.symm.trans w.hsp
  | some sp =>
  have w : Accepted o i form req sp := ⟨hf, hd, htime, by simp [hi], hs⟩
  simp only [Option.isSome_none, Bool.false_eq_true, if_false]
  cases hm : sp.Metadata with
  | none => exact .panic w fun ⟨_, _, h, _⟩ => nomatch hm.symm.trans h
  | some md =>
  simp only
  cases hdsc : md.SPSSODescriptor with
  | none => exact .panic w fun ⟨_, _, h, h'⟩ => by cases hm.symm.trans h; exact nomatch hdsc.symm.trans h'
  | some d => exact .success w hm hdsc

theorem deliver_eq_xmlBody {url relay : String} : deliver url relay = .xmlBody ↔ url = "" := by
  by_cases h : url = "" <;> simp [deliver, h]

theorem deliver_eq_postForm {url relay a r : String} : deliver url relay = .postForm a r ↔ url ≠ "" ∧ url = a ∧ relay = r := by
  by_cases h : url = "" <;> simp [deliver, h]

end Logout
