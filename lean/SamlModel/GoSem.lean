/-
  GoSem — the target language of the go2lean translator.

  A Go function body is translated statement by statement into a term of type
  `Ctl σ ρ`, where `σ` is the function's *frame* (a structure with one field per
  parameter / local variable) and `ρ` its result type.  Control flow is first order:
  `next` (fall through), `brk`, `cont`, `ret`, `panic`.  `for … range` is `goFor`,
  structural recursion on the list – termination is by construction.
-/
namespace Go

/-- Result of running a translated Go function: a value or a run-time panic. -/
inductive Res (α : Type) where
  | ok (a : α)
  | panic
deriving Repr, DecidableEq

instance [Inhabited α] : Inhabited (Res α) := ⟨.ok default⟩

def Res.isPanic : Res α → Bool
  | .panic => true
  | .ok _ => false

def Res.get [Inhabited α] : Res α → α
  | .ok a => a
  | .panic => default

/-- Outcome of one statement. -/
inductive Ctl (σ ρ : Type) where
  | next (s : σ)
  | brk (s : σ)
  | cont (s : σ)
  | ret (r : ρ)
  | panic

namespace Ctl

/-- Sequencing: run the continuation only on fall-through. -/
@[inline] def seq (c : Ctl σ ρ) (k : σ → Ctl σ ρ) : Ctl σ ρ :=
  match c with
  | .next s => k s
  | .brk s => .brk s
  | .cont s => .cont s
  | .ret r => .ret r
  | .panic => .panic

/-- A function body that falls off its end returns `dflt` (only for result-less Go functions). -/
def toRes (c : Ctl σ ρ) (dflt : ρ) : Res ρ :=
  match c with
  | .ret r => .ok r
  | .panic => .panic
  | .next _ => .ok dflt
  | .brk _ => .ok dflt
  | .cont _ => .ok dflt

@[simp] theorem seq_next (s : σ) (k : σ → Ctl σ ρ) : (Ctl.next s).seq k = k s := rfl
@[simp] theorem seq_ret (r : ρ) (k : σ → Ctl σ ρ) : (Ctl.ret r : Ctl σ ρ).seq k = .ret r := rfl
@[simp] theorem seq_panic (k : σ → Ctl σ ρ) : (Ctl.panic : Ctl σ ρ).seq k = .panic := rfl
@[simp] theorem seq_brk (s : σ) (k : σ → Ctl σ ρ) : (Ctl.brk s).seq k = .brk s := rfl
@[simp] theorem seq_cont (s : σ) (k : σ → Ctl σ ρ) : (Ctl.cont s).seq k = .cont s := rfl

@[simp] theorem toRes_ret (r d : ρ) : (Ctl.ret r : Ctl σ ρ).toRes d = .ok r := rfl
@[simp] theorem toRes_panic (d : ρ) : (Ctl.panic : Ctl σ ρ).toRes d = .panic := rfl
@[simp] theorem toRes_next (s : σ) (d : ρ) : (Ctl.next s : Ctl σ ρ).toRes d = .ok d := rfl

end Ctl

/-- `for _, x := range xs { body }`.  `break` leaves the loop (result `next`), `continue`
    proceeds with the next element, `return`/`panic` propagate. -/
def goFor : List α → σ → (α → σ → Ctl σ ρ) → Ctl σ ρ
  | [], s, _ => .next s
  | x :: xs, s, body =>
    match body x s with
    | .next s' => goFor xs s' body
    | .cont s' => goFor xs s' body
    | .brk s' => .next s'
    | .ret r => .ret r
    | .panic => .panic

@[simp] theorem goFor_nil (s : σ) (body : α → σ → Ctl σ ρ) : goFor [] s body = .next s := rfl

theorem goFor_cons (x : α) (xs : List α) (s : σ) (body : α → σ → Ctl σ ρ) :
    goFor (x :: xs) s body =
      match body x s with
      | .next s' => goFor xs s' body
      | .cont s' => goFor xs s' body
      | .brk s' => .next s'
      | .ret r => .ret r
      | .panic => .panic := rfl

/-- A search loop: `for _, x := range xs { if p x { return f x } }` is `List.find?`. -/
theorem goFor_find (p : α → Bool) (f : α → ρ) (xs : List α) (s : σ) :
    goFor xs s (fun x s => if p x = true then (Ctl.ret (f x) : Ctl σ ρ) else Ctl.next s) =
      match xs.find? p with
      | some e => Ctl.ret (f e)
      | none => Ctl.next s := by
  induction xs with
  | nil => rfl
  | cons x xs ih =>
    rw [goFor_cons]
    by_cases h : p x = true
    · rw [if_pos h]; simp [List.find?, h]
    · rw [if_neg h]
      have h' : p x = false := by simpa using h
      simp only [List.find?, h']
      exact ih

/-- The same with predicate and result depending on the (unchanged) frame. -/
theorem goFor_find' (p : α → σ → Bool) (f : α → σ → ρ) (xs : List α) (s : σ) :
    goFor xs s (fun x s => if p x s = true then (Ctl.ret (f x s) : Ctl σ ρ) else Ctl.next s) =
      match xs.find? (fun x => p x s) with
      | some e => Ctl.ret (f e s)
      | none => Ctl.next s := by
  induction xs with
  | nil => rfl
  | cons x xs ih =>
    rw [goFor_cons]
    by_cases h : p x s = true
    · rw [if_pos h]; simp [List.find?, h]
    · rw [if_neg h]
      have h' : p x s = false := by simpa using h
      simp only [List.find?, h']
      exact ih

/-- Outcome of one iteration of a loop whose body threads a state and may `return`. -/
inductive LoopR (σ ρ : Type) where
  | next (s : σ)
  | ret (r : ρ) (s : σ)

/-- `for _, x := range xs { body }` over a threaded state, with early `return` (target of the checker.go translation) -/
def forM : List α → σ → (α → σ → LoopR σ ρ) → LoopR σ ρ
  | [], s, _ => .next s
  | x :: xs, s, body =>
    match body x s with
    | .next s' => forM xs s' body
    | .ret r s' => .ret r s'

/-- Dereference of a Go pointer modelled as `Option`; only used after a nil guard. -/
@[inline] def deref [Inhabited α] (p : Option α) : α := p.getD default

@[simp] theorem deref_some [Inhabited α] (x : α) : deref (some x) = x := rfl
@[simp] theorem Res.isPanic_ok (a : α) : (Res.ok a).isPanic = false := rfl
@[simp] theorem Res.isPanic_panic : (Res.panic : Res α).isPanic = true := rfl
@[simp] theorem Res.get_ok [Inhabited α] (a : α) : (Res.ok a).get = a := rfl

/-- Go `error` values are modelled by their message template. -/
abbrev Err := Option String

end Go
