import SamlModel.Generated.Funcs
import SamlModel.Model.Consts
/-!
  Model.Sso — the SSO handler (`ssoHandleFunc`, sso.go) as a function from what the handler learns
  from outside to what it does.  The order of the steps is the order of the `checkerInstance.With…`
  calls in the source (tie: `SsoGen.sso_handler_refines`, the refinement of this model by the translated handler);
  by C20 the chain runs the steps in that order and stops at the first failing one, running only its
  failure callback.  Wherever a step calls a helper that go2lean translates, the model calls the
  *generated* definition.
-/
namespace Sso
open Go Gen Consts

/-- `AuthRequestForm` (result of `getAuthRequestFromRequest`) -/
structure Form where
  AuthRequest : String := ""
  Encoding : String := ""
  RelayState : String := ""
  SigAlg : String := ""
  Sig : String := ""
  Binding : String := ""
deriving Repr, DecidableEq, Inhabited

/-- everything `ssoHandleFunc` learns from outside, besides the oracles in `Gen.Ora` -/
structure In where
  /-- `p.GetMetadata` (needs the response signing key) failed -/
  metaErr : Bool := false
  idpMeta : Option md_IDPSSODescriptorType := none
  /-- `getAuthRequestFromRequest`: `none` = the form could not be parsed -/
  form : Option Form := none
  /-- `xml.DecodeAuthNRequest form.Encoding form.AuthRequest`: `none` = error -/
  decoded : Option samlp_AuthnRequestType := none
  /-- `storage.GetEntityByID issuer`: `none` = error -/
  sp : Option serviceprovider_ServiceProvider := none
  /-- `storage.CreateAuthRequest` succeeds, and the identifier it returns -/
  createOk : Bool := true
  createdID : String := ""
deriving Repr, Inhabited

/-- arguments of `storage.CreateAuthRequest` -/
structure Persist where
  acs : String
  binding : String
  relay : String
  appID : String
  reqID : String
  ok : Bool
deriving Repr, DecidableEq

inductive Out where
  | httpError (code : Nat)
  | panic
  /-- a failed Response: chain step that failed, status code, and the delivery parameters in effect -/
  | failed (step : Nat) (status : String) (acs binding relay inResponseTo : String)
  /-- 303 to the service provider's login URL for the identifier storage returned -/
  | login (id : String)
deriving Repr, DecidableEq

structure Result where
  out : Out
  persist : Option Persist := none
deriving Repr, DecidableEq

def bindR (r : Res α) (k : α → Result) : Result :=
  match r with
  | .panic => { out := .panic }
  | .ok a => k a

/-- a conditional logic step (`WithConditionalLogicStep`): `cond` decides whether `logic` runs;
    the result is the error that makes the step fail, if any -/
def condStep (cond : Res Bool) (logic : Res Err) : Res Err :=
  match cond with
  | .panic => .panic
  | .ok c => if c then logic else .ok none

def spAcs (sp : serviceprovider_ServiceProvider) : Option (List md_IndexedEndpointType) :=
  match sp.Metadata with
  | none => none
  | some m => match m.SPSSODescriptor with
    | none => none
    | some d => some d.AssertionConsumerService

/-- steps 11–15: both selected values non-empty, binding answerable, required content, persist -/
def ssoAfterSel (o : Ora) (i : In) (form : Form) (req : samlp_AuthnRequestType) (sp : serviceprovider_ServiceProvider)
    (acs binding : String) : Result :=
  let fail (n : Nat) (status : String) : Result := { out := .failed n status acs binding form.RelayState req.Id }
  if acs == "" then fail 11 statusUnsupportedBinding else
  if binding == "" then fail 12 statusUnsupportedBinding else
  if !(binding == redirectBinding || binding == postBinding) then fail 13 statusUnsupportedBinding else
  bindR (checkRequestRequiredContent o i.idpMeta (some sp) (some req)) fun e14 =>
  if e14.isSome then fail 14 statusRequestDenied else
  let p : Persist := { acs := acs, binding := binding, relay := form.RelayState, appID := sp.ID, reqID := req.Id, ok := i.createOk }
  if !i.createOk then { out := .failed 15 statusResponder acs binding form.RelayState req.Id, persist := some p } else
  { out := .login i.createdID, persist := some p }

/-- steps 6–10: certificate, signatures, signature placement, consumer endpoint selection -/
def ssoAfterSp (o : Ora) (i : In) (form : Form) (req : samlp_AuthnRequestType) (sp : serviceprovider_ServiceProvider) : Result :=
  let fail (n : Nat) : Result := { out := .failed n statusRequestDenied "" "" form.RelayState req.Id }
  bindR (condStep (certificateCheckNecessary o req.Signature sp.Metadata) (checkCertificate o req.Signature sp.Metadata)) fun e6 =>
  if e6.isSome then fail 6 else
  bindR (condStep (signatureRedirectVerificationNecessary o i.idpMeta sp.Metadata form.Sig form.Binding)
    (verifyRedirectSignature o form.AuthRequest form.RelayState form.Sig form.SigAlg (some sp))) fun e7 =>
  if e7.isSome then fail 7 else
  bindR (condStep (signaturePostVerificationNecessary o i.idpMeta sp.Metadata req.Signature form.Binding)
    (verifyPostSignature o form.AuthRequest (some sp))) fun e8 =>
  if e8.isSome then fail 8 else
  bindR (signaturePostProvided o req.Signature) fun emb =>
  if (form.Binding == postBinding && form.Sig != "") || (form.Binding == redirectBinding && emb) then fail 9 else
  match spAcs sp with
  | none => { out := .panic }
  | some acsList =>
  bindR (GetAcsUrlAndBindingForResponse o acsList req.ProtocolBinding) fun sel =>
  ssoAfterSel o i form req sp sel.1 sel.2

/-- steps 2–5: request present, SigAlg ⇒ Signature, decode, service provider lookup -/
def ssoAfterForm (o : Ora) (i : In) (form : Form) : Result :=
  if form.AuthRequest == "" then { out := .failed 2 statusRequestDenied "" "" form.RelayState "" } else
  if form.SigAlg != "" && form.Sig == "" then { out := .failed 3 statusRequestDenied "" "" form.RelayState "" } else
  match i.decoded with
  | none => { out := .failed 4 statusRequestDenied "" "" form.RelayState "" }
  | some req =>
  match req.Issuer with
  | none => { out := .failed 5 statusRequestDenied "" "" form.RelayState req.Id }
  | some _ =>
  match i.sp with
  | none => { out := .failed 5 statusRequestDenied "" "" form.RelayState req.Id }
  | some sp => ssoAfterSp o i form req sp

def sso (o : Ora) (i : In) : Result :=
  if i.metaErr then { out := .httpError 500 } else
  match i.form with
  | none => { out := .failed 1 statusRequestDenied "" "" "" "" }
  | some form => ssoAfterForm o i form

end Sso
